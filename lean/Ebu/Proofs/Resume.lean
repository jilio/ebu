import Ebu.Proofs.Resume.Faults
import Ebu.Proofs.Resume.View
/-!
The C12 theorems about M5, read off the invariants of `Resume/Faults.lean` (under every plan of failures and
crashes) and `Resume/View.lean` (without faults), and the vocabulary their statements need beyond `Spec/Resume.lean`.
-/
namespace Ebu.Resume

namespace Aux

/-- the operations that concern `id`: all but the subscriptions of other ids -/
def keep (id : Nat) (op : ROp) : Bool :=
  match op with
  | .subscribe id' _ _ => id' == id
  | _ => true

end Aux

/-- no subscription id is subscribed again while it is still live -/
def freshSubsFrom (p : Plan) : RS → List ROp → Bool
  | _, [] => true
  | s, op :: rest =>
    (match op with
     | .subscribe id _ _ => !isLive s id
     | _ => true) && freshSubsFrom p (stepOp p s op) rest

def freshSubs (p : Plan) (ops : List ROp) : Bool := freshSubsFrom p {} ops

namespace Aux

theorem foldl_step_filter (id : Nat) : ∀ (ops : List ROp) (v : View),
    (ops.filter (keep id)).foldl (View.step id) v = ops.foldl (View.step id) v := by
  intro ops
  induction ops with
  | nil => intro v; rfl
  | cons op ops ih =>
    intro v
    rw [List.filter_cons]
    cases op with
    | subscribe id' ty pd =>
      cases hid : id' == id
      · simp only [keep, hid, Bool.false_eq_true, if_false, List.foldl_cons, View.step, ih]
      · simp only [keep, hid, if_true, List.foldl_cons, ih]
    | _ => simp only [keep, if_true, List.foldl_cons, ih]

/-- what `id` observes does not depend on the other subscriptions of the history, as long as no handler
publishes during a replay -/
theorem ids_independent' (ops : List ROp) (h : ∀ op ∈ ops, noNested op) (id : Nat) :
    view (run {} ops) id = view (run {} (ops.filter (keep id))) id := by
  unfold run
  rw [view_foldl id _ _ rfl h, view_foldl id _ _ rfl fun o ho => h o (List.mem_filter.1 ho).1, foldl_step_filter]

theorem freshSubsFrom_cons {p : Plan} {s : RS} {op : ROp} {rest : List ROp}
    (h : freshSubsFrom p s (op :: rest) = true) :
    (∀ id ty pd, op = .subscribe id ty pd → liveOf s id = []) ∧ freshSubsFrom p (stepOp p s op) rest = true := by
  simp only [freshSubsFrom, Bool.and_eq_true] at h
  refine ⟨fun id ty pd hop => ?_, h.2⟩
  subst hop
  simpa only [Bool.not_eq_true', isLive_eq_false] using h.1

theorem M_run (p : Plan) (id : Nat) : ∀ (ops : List ROp) (s : RS), freshSubsFrom p s ops = true →
    M id s → M id (ops.foldl (stepOp p) s) :=
  run_ind freshSubsFrom_cons fun {s op} hop h => by
    cases op with
    | publish ty r => exact M_undead (M_publish h p ty r)
    | subscribe id' ty pd =>
      refine M_undead (M_subscribe h p id' ty pd fun hid => ?_)
      rw [beq_iff_eq] at hid
      exact hid ▸ hop id' ty pd rfl
    | restart => exact ⟨h.pw, h.ub, ⟨h.w.1, Nat.zero_le _⟩, Or.inl rfl⟩

theorem freshSubsFrom_of_wellFormedFrom (p : Plan) (tyOf : Nat → Nat) : ∀ (ops : List ROp) (s : RS),
    wellFormedFrom p tyOf s ops = true → freshSubsFrom p s ops = true := by
  intro ops
  induction ops with
  | nil => intro s _; rfl
  | cons op ops ih =>
    intro s h
    simp only [wellFormedFrom, Bool.and_eq_true] at h
    simp only [freshSubsFrom, Bool.and_eq_true]
    refine ⟨?_, ih _ h.2⟩
    cases op with
    | publish ty r => rfl
    | subscribe id ty pd =>
      have := h.1
      simp only [Bool.and_eq_true] at this
      exact this.1.2
    | restart => rfl

end Aux

/-- without crash or fault: what a subscription has been given is, at every moment, a prefix of
the persisted events of its type in log order – each exactly once – and everything once the
subscription is live (all its missed events were replayed, all later ones delivered live) -/
theorem resume_exactly_once (tyOf : Nat → Nat) (ops : List ROp) (hwf : wellFormed {} tyOf ops = true) (id : Nat) :
    let s := run {} ops
    deliveredTo s id <+: typed s.log (tyOf id) ∧ (isLive s id = true → deliveredTo s id = typed s.log (tyOf id)) := by
  have h := (Aux.EV_run tyOf id ops {} hwf ⟨rfl, Nat.le_refl _, rfl, Or.inl rfl⟩).2
  refine ⟨?_, fun hl => ?_⟩
  · show deliveredTo (run {} ops) id <+: _
    rw [show deliveredTo (run {} ops) id = _ from h.saved]
    exact Aux.typed_take_prefix _ _ _
  · rcases h.live with h0 | ⟨_, h1⟩
    · cases (Aux.isLive_eq_false.2 h0).symm.trans hl
    · exact h1

/-- with a crash after ANY store operation and/or a failure of ANY single store operation:
nothing is lost and nothing is reordered – the persisted events of the subscription's type are,
in log order, a subsequence of what it was given once it is live again (what may be added are
re-deliveries of events whose position had not been saved, and live deliveries of events whose
append failed) -/
theorem resume_at_least_once (p : Plan) (tyOf : Nat → Nat) (ops : List ROp) (hwf : wellFormed p tyOf ops = true) (id : Nat) :
    let s := run p ops
    isLive s id = true → List.Sublist (typed s.log (tyOf id)) (deliveredTo s id) := by
  intro s hl
  have h := Aux.A_run p tyOf id ops {} hwf (Aux.A_init _ _)
  exact Aux.F_nil_live h.2 h.1 fun h0 => nomatch (Aux.isLive_eq_false.2 h0).symm.trans hl


/- C12 also claims that "a subscription's saved offset never moves backwards". Without a side condition that
is false: when an id is subscribed again while it is still live and the replay handler publishes re-entrantly,
the live copy saves the new (larger) offset and the replay then saves the older snapshot offsets. -/

/-- id 7 is subscribed again while it is live, with a handler that publishes during the replay: its saved
offsets go back -/
theorem saved_offset_monotone_counterexample :
    ¬ List.Pairwise (· ≤ ·) (savesOf (run {} [ROp.subscribe 7 2 none, .publish 1 1, .publish 1 2,
        .subscribe 7 1 (some (2, 9))]) 7) := by
  decide

/-- C12, saved offsets: under every plan the offsets saved for an id never go back, in a history that subscribes no id
while it is live. `M_subscribe` needs that of the id in question only; `freshSubs` asks it of all -/
theorem saved_offset_monotone_of_freshSubs (p : Plan) (ops : List ROp) (hfresh : freshSubs p ops = true)
    (id : Nat) : List.Pairwise (· ≤ ·) (savesOf (run p ops) id) :=
  (Aux.M_run p id ops {} hfresh ⟨List.Pairwise.nil, fun _ hx => (by cases hx), Aux.W_init, Or.inl rfl⟩).pw

theorem saved_offset_monotone_of_wellFormed (p : Plan) (tyOf : Nat → Nat) (ops : List ROp)
    (hwf : wellFormed p tyOf ops = true) (id : Nat) : List.Pairwise (· ≤ ·) (savesOf (run p ops) id) :=
  saved_offset_monotone_of_freshSubs p ops (Aux.freshSubsFrom_of_wellFormedFrom p tyOf ops {} hwf) id

theorem saved_within_log (p : Plan) (ops : List ROp) (id : Nat) :
    savedOf (run p ops) id ≤ (run p ops).log.length :=
  Aux.savedOf_le_of_W (Aux.W_run p ops) id

/-- different subscription ids progress independently: what `id` is given does not depend on
the other subscriptions of the history (fault-free, well-formed histories) -/
theorem ids_independent (tyOf : Nat → Nat) (ops : List ROp) (hwf : wellFormed {} tyOf ops = true) (id : Nat) :
    let ops' := ops.filter (fun op => match op with | .subscribe id' _ _ => id' == id | _ => true)
    deliveredTo (run {} ops) id = deliveredTo (run {} ops') id := by
  exact congrArg Aux.View.delivered (Aux.ids_independent' ops (Aux.noNested_of_wellFormedFrom {} tyOf ops {} hwf) id)

/-- KNOWN FINDING (C12): an event published while SubscribeWithReplay is running – here by the
handler itself during the replay – is persisted but never delivered to that subscription, not
even after a restart: it is neither in the replay's snapshot nor seen by the live handler, and
the next live event moves the saved offset past it -/
theorem publish_during_replay_lost :
    let ops := [ROp.publish 1 1, .subscribe 7 1 (some (1, 9)), .publish 1 5, .restart, .subscribe 7 1 none]
    let s := run {} ops
    typed s.log 1 = [1, 9, 5] ∧ deliveredTo s 7 = [1, 5] ∧ isLive s 7 = true := by
  decide

end Ebu.Resume
