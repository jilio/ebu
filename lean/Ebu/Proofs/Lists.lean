/-!
List facts that mention no definition of the models (core Lean only). `find?_upsert` is the shape of every offset
table (the stores of `Proofs/Log.lean`, M5, the collections of M7); the other three serve `Proofs/Log.lean`.
-/
namespace Ebu.Lists

theorem snoc_induction {α : Type} {P : List α → Prop} (hnil : P [])
    (hsnoc : ∀ l a, P l → P (l ++ [a])) : ∀ l, P l := by
  intro l
  rw [← List.reverse_reverse l]
  induction l.reverse with
  | nil => simpa using hnil
  | cons a t ih => rw [List.reverse_cons]; exact hsnoc _ _ ih

theorem filter_eq_drop {α : Type} (p : α → Bool) (l : List α) (j : Nat)
    (h : ∀ i (hi : i < l.length), p l[i] = decide (j ≤ i)) : l.filter p = l.drop j := by
  conv => lhs; rw [← List.take_append_drop j l]
  rw [List.filter_append, List.filter_eq_nil_iff.mpr, List.filter_eq_self.mpr, List.nil_append]
  · intro e he
    obtain ⟨i, hi, rfl⟩ := List.mem_drop_iff_getElem.mp he
    rw [h]; simp
  · intro e he
    obtain ⟨i, hi, rfl⟩ := List.mem_take_iff_getElem.mp he
    rw [h]; simp; omega

theorem drop_eq_prefix_append {α : Type} {l s : List α} {j : Nat} (h : s <+: l.drop j) :
    l.drop j = s ++ l.drop (j + s.length) := by
  rw [← List.drop_drop]; exact (List.prefix_iff_eq_append.mp h).symm

/-- looking a key up in an association list after an upsert (`(k, v) ::` the list without `k`):
the shape of every offset table in the models (`SaveOffset` / `LoadOffset`) -/
theorem find?_upsert {κ β : Type} [BEq κ] [LawfulBEq κ] (k k' : κ) (v : β) (l : List (κ × β)) :
    ((k, v) :: l.filter (fun p => p.1 != k)).find? (fun p => p.1 == k') =
      if k == k' then some (k, v) else l.find? (fun p => p.1 == k') := by
  by_cases h : k = k'
  · simp [h]
  · have hk : (k == k') = false := by simpa using h
    rw [List.find?_cons, hk, List.find?_filter]
    show List.find? _ l = _
    congr 1
    funext p
    by_cases hp : p.1 = k'
    · simp [hp, Ne.symm h]
    · simp [hp]

end Ebu.Lists
