import Ebu.Spec.Locks
/-!
The RW mutex of M11 and the lock discipline (C03): a writer excludes everybody else in every reachable state of a mutex
(`no_conflicting_holders`), and an access that follows the discipline holds its guard (`accessOk_guard`); hence two such
accesses to one location, one of them a write, do not race (`accessOk_no_race`).
-/
namespace Ebu.Locks

theorem valid_step (l l' : RW) (op : LockOp) (h : l.Valid) (hs : l.step op = some l') : l'.Valid := by
  cases op with
  | lock t =>
    simp only [RW.step] at hs
    split at hs <;> simp at hs
    subst hs; intro _; rfl
  | unlock t =>
    simp only [RW.step] at hs
    split at hs <;> simp at hs
    subst hs; intro hw; simp at hw
  | rlock t =>
    simp only [RW.step] at hs
    split at hs <;> simp at hs
    rename_i hw
    subst hs; intro hw'; simp [hw] at hw'
  | runlock t =>
    simp only [RW.step] at hs
    split at hs <;> simp at hs
    subst hs; intro hw
    have := h hw
    simp [this]

theorem valid_reachable (l : RW) (h : RW.Reachable l) : l.Valid := by
  induction h with
  | init => intro hw; simp at hw
  | step _ hs ih => exact valid_step _ _ _ ih hs

/-- a reachable mutex never has two goroutines holding it in conflicting modes: while `t` holds it for writing, no other
goroutine `u` holds it at all -/
theorem no_conflicting_holders (l : RW) (h : RW.Reachable l) (t u : Nat) (htu : t ≠ u)
    (ht : l.mode t = 2) (hu : 1 ≤ l.mode u) : False := by
  have hv := valid_reachable l h
  unfold RW.mode at ht hu
  split at ht
  · rename_i hw
    have hr := hv (by simp [hw])
    split at hu
    · rename_i hw'
      rw [hw] at hw'
      exact htu (Option.some.inj hw')
    · split at hu
      · rename_i hm; simp [hr] at hm
      · omega
  · split at ht <;> omega

/-- what the discipline says of an access that is not atomic: the guard is held, exclusively by a writer -/
theorem accessOk_guard {a : Generated.AccessFact} (h : accessOk a = true) (hna : a.atomic = false) :
    1 ≤ a.guardMode ∧ (a.write = true → a.guardMode = 2) := by
  simp only [accessOk, hna, Bool.false_eq_true, if_false] at h
  cases hw : a.write <;> simp [hw] at h <;> simp [h]

/-- Two accesses that follow the discipline, neither atomic and one of them a write, are not made at the same time by
two goroutines: the writer holds the guard exclusively, the other one holds it too. -/
theorem accessOk_no_race {a b : Generated.AccessFact} (ha : accessOk a = true) (hb : accessOk b = true)
    (hconf : a.write = true ∨ b.write = true) (hna : a.atomic = false) (hnb : b.atomic = false)
    {l : RW} (hl : RW.Reachable l) {t u : Nat} (htu : t ≠ u)
    (hta : l.mode t = a.guardMode) (hub : l.mode u = b.guardMode) : False := by
  obtain ⟨ha1, ha2⟩ := accessOk_guard ha hna
  obtain ⟨hb1, hb2⟩ := accessOk_guard hb hnb
  rcases hconf with hw | hw
  · exact no_conflicting_holders l hl t u htu (hta.trans (ha2 hw)) (hub ▸ hb1)
  · exact no_conflicting_holders l hl u t htu.symm (hub.trans (hb2 hw)) (hta ▸ ha1)

end Ebu.Locks
