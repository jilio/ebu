import Ebu.Model.Durable
import Ebu.Proofs.Lists
/-!
C14 over M10. Each theorem is an invariant of `run`, read off what one `step` does to it: positions stay gap-free
(`GapFree`), acknowledged appends stay in the log (`AckedIn`), and a saved position stays what `subOf` returns until
the same id is saved again (`subOf_step`).
-/
namespace Ebu.Durable

theorem run_append (a b : List Op) : run (a ++ b) = b.foldl step (run a) := by
  simp only [run, List.foldl_append]

theorem run_inv (P : Db × Acked → Prop) (h0 : P ({}, {})) (hstep : ∀ s op, P s → P (step s op))
    (ops : List Op) : P (run ops) :=
  List.foldlRecOn ops step h0 (fun s hs op _ => hstep s op hs)

def GapFree (d : Db) : Prop :=
  d.rows.map (·.1) = (List.range d.rows.length).map (· + 1) ∧ d.seq = d.rows.length

theorem gapFree_commitAppend (d : Db) (r : Nat) (h : GapFree d) : GapFree (commitAppend d r).1 := by
  obtain ⟨h1, h2⟩ := h
  refine ⟨?_, ?_⟩
  · simp only [commitAppend, List.map_append, List.length_append, List.length_cons,
      List.length_nil, List.map_cons, List.map_nil, List.range_succ, h1, h2]
  · simp only [commitAppend, List.length_append, List.length_cons, List.length_nil, h2]

theorem gapFree_migrate (d : Db) (h : GapFree d) : GapFree (migrate d) := by
  unfold migrate
  split
  · exact h
  · exact h

theorem gapFree_step (s : Db × Acked) (op : Op) (h : GapFree s.1) : GapFree (step s op).1 := by
  cases op with
  | append r => exact gapFree_commitAppend s.1 r h
  | save id off => exact h
  | killAppend r c =>
    cases c
    · exact h
    · exact gapFree_commitAppend s.1 r h
  | killSave id off c =>
    cases c
    · exact h
    · exact h
  | kill => exact h
  | close => exact h
  | «open» => exact gapFree_migrate s.1 h

def AckedIn (s : Db × Acked) : Prop :=
  List.Sublist (s.2.appends.map (fun a => (a.2, a.1))) s.1.rows

theorem ackedIn_step (s : Db × Acked) (op : Op) (h : AckedIn s) : AckedIn (step s op) := by
  unfold AckedIn at *
  cases op with
  | append r =>
    simp only [step, commitAppend, List.map_append, List.map_cons, List.map_nil]
    exact List.Sublist.append h (List.Sublist.refl _)
  | save id off => exact h
  | killAppend r c =>
    cases c
    · exact h
    · simp only [step, commitAppend, if_true]
      exact List.sublist_append_of_sublist_left h
  | killSave id off c =>
    cases c
    · exact h
    · exact h
  | kill => exact h
  | close => exact h
  | «open» =>
    simp only [step, migrate]
    split
    · exact h
    · exact h

theorem subOf_commitSave (d : Db) (id id' off : Nat) :
    subOf (commitSave d id' off) id = if id' = id then off else subOf d id := by
  simp only [subOf, commitSave, Lists.find?_upsert, beq_iff_eq]
  by_cases h : id' = id <;> simp only [h, if_true, if_false]

theorem subOf_commitAppend (d : Db) (r id : Nat) : subOf (commitAppend d r).1 id = subOf d id := rfl

theorem subOf_migrate (d : Db) (id : Nat) : subOf (migrate d) id = subOf d id := by
  unfold migrate
  split
  · rfl
  · rfl

theorem subOf_step (s : Db × Acked) (op : Op) (id : Nat)
    (hop : (∀ o, op ≠ .save id o) ∧ (∀ o c, op ≠ .killSave id o c)) :
    subOf (step s op).1 id = subOf s.1 id := by
  cases op with
  | append r => exact subOf_commitAppend s.1 r id
  | save id' o =>
    have hne : id' ≠ id := by
      intro h
      exact hop.1 o (by rw [h])
    exact (subOf_commitSave s.1 id id' o).trans (if_neg hne)
  | killAppend r c =>
    cases c
    · rfl
    · exact subOf_commitAppend s.1 r id
  | killSave id' o c =>
    have hne : id' ≠ id := by
      intro h
      exact hop.2 o c (by rw [h])
    cases c
    · rfl
    · exact (subOf_commitSave s.1 id id' o).trans (if_neg hne)
  | kill => rfl
  | close => rfl
  | «open» => exact subOf_migrate s.1 id

theorem subOf_foldl (id : Nat) (more : List Op)
    (hnone : ∀ op ∈ more, (∀ o, op ≠ .save id o) ∧ (∀ o c, op ≠ .killSave id o c)) (s : Db × Acked) :
    subOf (more.foldl step s).1 id = subOf s.1 id :=
  List.foldlRecOn (motive := fun t => subOf t.1 id = subOf s.1 id) more step rfl
    (fun t ht op hop => (subOf_step t op id (hnone op hop)).trans ht)

/-- positions handed out are exactly 1,2,…,seq in order: the log is gap-free and ordered -/
theorem log_gap_free (ops : List Op) :
    (run ops).1.rows.map (·.1) = (List.range (run ops).1.rows.length).map (· + 1) ∧
    (run ops).1.seq = (run ops).1.rows.length :=
  run_inv (fun s => GapFree s.1) ⟨rfl, rfl⟩ gapFree_step ops

/-- every acknowledged event is in the log, with the offset it was acknowledged with, in acknowledgement order
(a sublist: an append in flight when the process was killed may be in the log without having been acknowledged) -/
theorem acked_survive (ops : List Op) :
    List.Sublist ((run ops).2.appends.map (fun a => (a.2, a.1))) (run ops).1.rows := by
  exact run_inv AckedIn (List.Sublist.refl _) ackedIn_step ops

/-- an acknowledged SaveOffset is what LoadOffset returns afterwards, unless a later save of the
same id (acknowledged, or in flight when the process was killed) replaced it -/
theorem saved_offset_survives (ops : List Op) (id off : Nat) (more : List Op)
    (hnone : ∀ op ∈ more, (∀ o, op ≠ .save id o) ∧ (∀ o c, op ≠ .killSave id o c)) :
    subOf (run (ops ++ [.save id off] ++ more)).1 id = off := by
  rw [run_append, subOf_foldl id more hnone, run_append]
  simp only [List.foldl_cons, List.foldl_nil]
  exact (subOf_commitSave _ id id off).trans (if_pos rfl)

/-- new appends always receive offsets larger than every offset handed out before, across any
number of kills and reopenings -/
theorem new_offsets_larger (ops : List Op) (r : Nat) :
    ∀ p ∈ (run ops).1.rows.map (·.1), p < (commitAppend (run ops).1 r).2 := by
  intro p hp
  obtain ⟨h1, h2⟩ := log_gap_free ops
  rw [h1] at hp
  simp only [List.mem_map, List.mem_range] at hp
  obtain ⟨a, ha, rfl⟩ := hp
  simp only [commitAppend, h2]
  omega

theorem open_idempotent (s : Db × Acked) :
    step (step s .open) .open = step s .open ∧ (step s .open).1.rows = s.1.rows ∧ (step s .open).1.subs = s.1.subs := by
  simp only [step, migrate]
  by_cases h : s.1.version < 1
  · simp [h]
  · simp [h]

end Ebu.Durable
