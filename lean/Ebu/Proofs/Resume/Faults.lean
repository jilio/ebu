import Ebu.Proofs.Resume.Pieces
/-!
What holds of M5 under every plan of failures and crashes: saved offsets stay within the log (`W`), nothing
persisted is lost to a live subscription (`F`, `H`, `A`), and the offsets saved for an id never go back as
long as it is not subscribed while live (`M`).
-/
namespace Ebu.Resume
namespace Aux

/-- the saved positions and the bus offset lie within the log -/
def W (s : RS) : Prop := (∀ q ∈ s.saved, q.2 ≤ s.log.length) ∧ s.last ≤ s.log.length

theorem savedOf_le_of_W {s : RS} (h : W s) (id : Nat) : savedOf s id ≤ s.log.length := by
  unfold savedOf
  cases hf : s.saved.find? (fun p => p.1 == id) with
  | none => simp
  | some q => exact h.1 q (List.mem_of_find?_eq_some hf)

theorem W_init : W {} := ⟨nofun, Nat.le_refl _⟩
theorem W_bump {s : RS} (h : W s) : W (bump s) := h
theorem W_undead {s : RS} (h : W s) : W (undead s) := h
theorem W_deliver {s : RS} (h : W s) (id r : Nat) : W (deliver s id r) := h
theorem W_err {s : RS} (h : W s) (i : Nat) : W (err s i) := h
theorem W_addLive {s : RS} (h : W s) (i t : Nat) : W (addLive s i t) := h
theorem W_die {s : RS} (h : W s) : W (die s) := ⟨h.1, Nat.zero_le _⟩
theorem W_save {s : RS} (h : W s) (id off : Nat) (ho : off ≤ s.log.length) : W (save s id off) := by
  refine ⟨?_, h.2⟩
  intro q hq
  simp only [save, List.mem_cons, List.mem_filter] at hq
  rcases hq with rfl | ⟨hq, _⟩
  · exact ho
  · exact h.1 q hq
theorem W_app {s : RS} (h : W s) (ty r : Nat) : W (app s ty r) := by
  refine ⟨?_, ?_⟩
  · intro q hq
    have := h.1 q hq
    simp only [app, List.length_append, List.length_cons, List.length_nil]
    omega
  · simp [app]

theorem W_frame : Frame W := ⟨W_bump, W_die⟩

theorem W_thenSave {s : RS} (h : W s) (p : Plan) (id off : Nat) (ho : off ≤ s.log.length) : W (thenSave p id off s) :=
  thenSave_ind W_frame h fun hb => W_save hb id off ho

theorem W_pstep {s : RS} (h : W s) (p : Plan) (ty r : Nat) (l : Nat × Nat) : W (pstep p ty r s l) :=
  pstep_ind (fun _ => h) (fun _ _ _ => W_deliver h _ r) fun _ _ _ => W_thenSave (W_deliver h _ r) p _ _ h.2

theorem W_publish {s : RS} (h : W s) (p : Plan) (ty r : Nat) : W (publish p s ty r) :=
  publish_ind (P := W) (W_bump h) (W_app (W_bump h) ty r) (fun _ => W_die) fun s2 h2 =>
    List.foldlRecOn s2.live _ h2 fun _ h' l _ => W_pstep h' p ty r l

theorem W_rstep {s : RS} (h : W s) (p : Plan) (id ty : Nat) (pd : Option (Nat × Nat)) (b : Bool)
    (e : Nat × Nat × Nat) (he : e.1 ≤ s.log.length) : W (rstep p id ty pd (s, b) e).1 :=
  rstep_ind (fun _ => h) fun _ _ =>
    W_thenSave (nest_ind (W_deliver h id e.2.2) fun _ _ => W_publish (W_deliver h id e.2.2) p _ _) p id e.1
      (Nat.le_trans he (log_nest p pd b (deliver s id e.2.2)))

theorem W_replay {s : RS} (h : W s) (p : Plan) (id ty : Nat) (pd : Option (Nat × Nat)) :
    W (replay p id ty pd s) :=
  replay_ind (I := fun _ => W) (fun _ _ _ b _ hj hI => W_rstep hI p id ty pd b _ hj) (savedOf_le_of_W h id) h

theorem W_subscribe {s : RS} (h : W s) (p : Plan) (id ty : Nat) (pd : Option (Nat × Nat)) :
    W (subscribe p s id ty pd) :=
  subscribe_ind W_frame (W_err · id) h fun h2 =>
    have hr := W_replay h2 p id ty pd
    attach_ind hr fun _ => W_addLive hr id ty

theorem W_stepOp {s : RS} (h : W s) (p : Plan) (op : ROp) : W (stepOp p s op) := by
  cases op with
  | publish ty r => exact W_undead (W_publish h p ty r)
  | subscribe id ty pd => exact W_undead (W_subscribe h p id ty pd)
  | restart => exact ⟨h.1, Nat.zero_le _⟩

theorem W_run (p : Plan) (ops : List ROp) : W (run p ops) :=
  List.foldlRecOn ops _ W_init fun _ h op _ => W_stepOp h p op

/-- `r` is still owed to `id`: among the handlers `L` yet to be called there is one of `id` for the type `ty` -/
def pend (id ty r : Nat) (L : List (Nat × Nat)) : List Nat :=
  if L.any (fun l => l.1 == id && l.2 == ty) then [r] else []

/-- nothing of type `T` is lost to `id`, seen in the middle of an operation: `ty r` is the publish in progress and `L`
the live handlers it has still to call. What lies before the saved position has been handed to `id`; while `id` is
live so has the whole log, but for the `r` that `L` still owes it (`pend`) -/
structure F (T id ty r : Nat) (s : RS) (L : List (Nat × Nat)) : Prop where
  w : W s
  last : s.last = 0 ∨ s.last = s.log.length
  saved : List.Sublist (typed (s.log.take (savedOf s id)) T) (deliveredTo s id)
  live : s.dead = false → liveOf s id ≠ [] →
    List.Sublist (typed s.log T) (deliveredTo s id ++ pend id ty r L)
  tys : ∀ l ∈ s.live, l.1 = id → l.2 = T
  sub : s.dead = false → ∀ l ∈ L, l ∈ s.live
  deadlive : s.dead = true → s.live = []

theorem pend_cons (id ty r : Nat) (l : Nat × Nat) (L : List (Nat × Nat)) :
    pend id ty r (l :: L) = if l.1 == id && l.2 == ty then [r] else pend id ty r L := by
  by_cases h : (l.1 == id && l.2 == ty) = true <;> simp [pend, h]

/-- `F` between operations: the process runs and no publish is in progress. An operation leaves `A` for the time it
runs: `A_publish` and `A_subscribe` start from `A s` and end in `F … []` of the state the operation reaches, where the
process may be dead, and `A_undead` gets `A` back from that -/
def A (T id : Nat) (s : RS) : Prop := s.dead = false ∧ F T id 0 0 s []

theorem F_nil_irrel {T id ty r ty' r' : Nat} {s : RS} (h : F T id ty r s []) : F T id ty' r' s [] :=
  ⟨h.w, h.last, h.saved, h.live, h.tys, h.sub, h.deadlive⟩

theorem F_nil_live {T id ty r : Nat} {s : RS} (h : F T id ty r s []) (hd : s.dead = false) (hl : liveOf s id ≠ []) :
    List.Sublist (typed s.log T) (deliveredTo s id) := by
  have := h.live hd hl
  simpa [pend] using this

theorem A_undead {T id ty r : Nat} {s : RS} (h : F T id ty r s []) : A T id (undead s) := by
  refine ⟨rfl, h.w, h.last, h.saved, ?_, h.tys, ?_, ?_⟩
  · intro _ hl
    cases hd : s.dead
    · exact h.live hd hl
    · have := h.deadlive hd
      exfalso; apply hl; unfold liveOf undead; simp [this]
  · intro _ l hl; cases hl
  · intro hd; cases hd

theorem F_noLive {T id ty r : Nat} {s : RS} {L : List (Nat × Nat)} (hw : W s)
    (hlast : s.last = 0 ∨ s.last = s.log.length)
    (hsaved : List.Sublist (typed (s.log.take (savedOf s id)) T) (deliveredTo s id)) (hl : s.live = [])
    (hL : s.dead = false → L = []) : F T id ty r s L := by
  refine ⟨hw, hlast, hsaved, fun _ h => ?_, fun l h => ?_, fun hd l h => ?_, fun _ => hl⟩
  · exact absurd (by unfold liveOf; rw [hl]; rfl) h
  · rw [hl] at h; cases h
  · rw [hL hd] at h; cases h

theorem F_die {T id ty r : Nat} {s : RS} {L L' : List (Nat × Nat)} (h : F T id ty r s L) :
    F T id ty r (die s) L' :=
  F_noLive (W_die h.w) (Or.inl rfl) h.saved rfl fun hd => nomatch hd

theorem F_bump {T id ty r : Nat} {s : RS} {L : List (Nat × Nat)} (h : F T id ty r s L) :
    F T id ty r (bump s) L := ⟨h.w, h.last, h.saved, h.live, h.tys, h.sub, h.deadlive⟩

theorem F_err {T id ty r : Nat} {s : RS} {L : List (Nat × Nat)} (h : F T id ty r s L) (i : Nat) :
    F T id ty r (err s i) L := ⟨h.w, h.last, h.saved, h.live, h.tys, h.sub, h.deadlive⟩

theorem F_frame (T id ty r : Nat) (L : List (Nat × Nat)) : Frame (F T id ty r · L) := ⟨F_bump, F_die⟩

/-- a position may be saved for `id` once everything of its type up to there has been handed to it -/
theorem F_save {T id ty r : Nat} {s : RS} {L : List (Nat × Nat)} (h : F T id ty r s L) (i off : Nat)
    (ho : off ≤ s.log.length)
    (hc : (i == id) = true → List.Sublist (typed (s.log.take off) T) (deliveredTo s id)) :
    F T id ty r (save s i off) L := by
  refine ⟨W_save h.w i off ho, h.last, ?_, h.live, h.tys, h.sub, h.deadlive⟩
  show List.Sublist (typed (s.log.take (savedOf (save s i off) id)) T) (deliveredTo s id)
  rw [savedOf_save]
  split
  · rename_i hi; exact hc hi
  · exact h.saved

theorem F_thenSave {T id ty r : Nat} {s : RS} {L : List (Nat × Nat)} (h : F T id ty r s L) (p : Plan) (i off : Nat)
    (ho : off ≤ s.log.length)
    (hc : (i == id) = true → List.Sublist (typed (s.log.take off) T) (deliveredTo s id)) :
    F T id ty r (thenSave p i off s) L :=
  thenSave_ind (F_frame T id ty r L) h fun hb => F_save hb i off ho hc

/-- handing `r'` to `i` can only help; what is then still owed to `id` has to be said -/
theorem F_deliver {T id ty r : Nat} {s : RS} {L L' : List (Nat × Nat)} (h : F T id ty r s L) (i r' : Nat)
    (hsub : ∀ l ∈ L', l ∈ L)
    (hlive : s.dead = false → liveOf s id ≠ [] →
      List.Sublist (typed s.log T) (deliveredTo (deliver s i r') id ++ pend id ty r L')) :
    F T id ty r (deliver s i r') L' := by
  refine ⟨h.w, h.last, ?_, hlive, h.tys, fun hd l hl => h.sub hd l (hsub l hl), h.deadlive⟩
  show List.Sublist _ (deliveredTo (deliver s i r') id)
  rw [deliveredTo_deliver]
  exact h.saved.trans (List.sublist_append_left _ _)

/-- calling the handler `l` pays the `r` that `pend` says is owed to `id` if `l` is one of `id`'s, and then `id` has been
handed the whole log, which is what allows to save its end for `id`; otherwise `r` is owed as before -/
theorem F_call {T id ty r : Nat} {s : RS} {l : Nat × Nat} {L : List (Nat × Nat)} (h : F T id ty r s (l :: L))
    (hd : s.dead = false) (hty : l.2 = ty) :
    F T id ty r (deliver s l.1 r) L ∧
    ((l.1 == id) = true → List.Sublist (typed s.log T) (deliveredTo (deliver s l.1 r) id)) := by
  have hty2 : (l.2 == ty) = true := by simp [hty]
  have key : liveOf s id ≠ [] → List.Sublist (typed s.log T) (deliveredTo (deliver s l.1 r) id ++ pend id ty r L) ∧
      ((l.1 == id) = true → List.Sublist (typed s.log T) (deliveredTo (deliver s l.1 r) id)) := by
    intro hl
    have := h.live hd hl
    rw [pend_cons, hty2, Bool.and_true] at this
    rw [deliveredTo_deliver]
    cases hid : l.1 == id
    · simp only [hid, Bool.false_eq_true, if_false, List.append_nil] at this ⊢
      exact ⟨this, fun h => nomatch h⟩
    · simp only [hid, if_true] at this ⊢
      exact ⟨this.trans (List.sublist_append_left _ _), fun _ => this⟩
  refine ⟨F_deliver h l.1 r (fun _ => List.mem_cons_of_mem _) fun _ hl => (key hl).1, fun hid => (key ?_).2 hid⟩
  intro h0
  have : l ∈ liveOf s id := List.mem_filter.mpr ⟨h.sub hd l (List.mem_cons_self ..), hid⟩
  rw [h0] at this; cases this

theorem F_pstep {T id ty r : Nat} {s : RS} {l : Nat × Nat} {L : List (Nat × Nat)} (p : Plan)
    (h : F T id ty r s (l :: L)) : F T id ty r (pstep p ty r s l) L := by
  refine pstep_ind (Q := (F T id ty r · L)) (fun hskip => ?_) (fun hd hty _ => (F_call h hd hty).1) fun hd hty h0 => ?_
  · refine ⟨h.w, h.last, h.saved, fun hd hl => ?_, h.tys,
      fun hd l' hl' => h.sub hd l' (List.mem_cons_of_mem _ hl'), h.deadlive⟩
    have := h.live hd hl
    rwa [pend_cons, beq_false_of_ne (hskip hd), Bool.and_false, if_neg Bool.false_ne_true] at this
  · refine F_thenSave (F_call h hd hty).1 p l.1 s.last h.w.2 fun hid => ?_
    -- the bus offset is the end of the log
    show List.Sublist (typed (s.log.take s.last) T) _
    rw [h.last.resolve_left h0, List.take_of_length_le (Nat.le_refl _)]
    exact (F_call h hd hty).2 hid

theorem F_pfold {T id ty r : Nat} (p : Plan) : ∀ (L : List (Nat × Nat)) (s : RS), F T id ty r s L →
    F T id ty r (L.foldl (pstep p ty r) s) [] := by
  intro L
  induction L with
  | nil => intro s h; exact h
  | cons l L ih => intro s h; exact ih _ (F_pstep p h)

theorem A_publish {T id : Nat} {s : RS} (h : A T id s) (p : Plan) (ty r : Nat) :
    F T id ty r (publish p s ty r) [] := by
  obtain ⟨hd, h⟩ := h
  refine publish_ind (P := fun s2 => F T id ty r s2 s2.live) (Q := (F T id ty r · [])) ?_ ?_ (fun _ => F_die) fun s2 => F_pfold p _ s2
  · -- the append failed: the live handlers are called all the same
    refine ⟨h.w, h.last, h.saved, fun _ hl => ?_, h.tys, fun _ l hl => hl, h.deadlive⟩
    exact (F_nil_live h hd hl).trans (List.sublist_append_left _ _)
  · refine ⟨W_app (W_bump h.w) ty r, Or.inr (by simp [app]), ?_, fun _ hl => ?_, h.tys, fun _ l hl => hl, h.deadlive⟩
    · show List.Sublist (typed ((s.log ++ [(ty, r)]).take (savedOf s id)) T) (deliveredTo s id)
      rw [List.take_append_of_le_length (savedOf_le_of_W h.w id)]; exact h.saved
    · show List.Sublist (typed (s.log ++ [(ty, r)]) T) (deliveredTo s id ++ pend id ty r s.live)
      have hl' : liveOf s id ≠ [] := hl
      rw [typed_append, typed_single]
      cases hty : ty == T
      · simp only [Bool.false_eq_true, if_false, List.append_nil]
        exact (F_nil_live h hd hl').trans (List.sublist_append_left _ _)
      · -- a live copy of `id` has its type, so the new record is pending for `id`
        obtain ⟨l, hl⟩ := List.exists_mem_of_ne_nil _ hl'
        obtain ⟨hm, hi⟩ := List.mem_filter.1 hl
        have ht := h.tys l hm (by simpa using hi)
        have : pend id ty r s.live = [r] := by
          unfold pend
          rw [if_pos (List.any_eq_true.2 ⟨l, hm, by simp only [beq_iff_eq] at hty; simp [hi, ht, hty]⟩)]
        rw [this]
        exact (F_nil_live h hd hl').append (List.Sublist.refl _)

theorem F_addLive {T id : Nat} {s : RS} (h : F T id 0 0 s []) (hd : s.dead = false) (i t : Nat)
    (hi : (i == id) = true → t = T ∧ List.Sublist (typed s.log T) (deliveredTo s id)) :
    F T id 0 0 (addLive s i t) [] := by
  refine ⟨h.w, h.last, h.saved, fun _ hl => ?_, fun l hl hl1 => ?_, (fun _ l hl => nomatch hl),
    fun hd1 => nomatch hd.symm.trans hd1⟩
  · show List.Sublist (typed s.log T) (deliveredTo s id ++ pend id 0 0 [])
    cases hid : i == id
    · rw [liveOf_addLive, hid] at hl
      exact h.live hd (by simpa using hl)
    · exact (hi hid).2.trans (List.sublist_append_left _ _)
  · rcases List.mem_append.1 hl with hl | hl
    · exact h.tys l hl hl1
    · rw [List.mem_singleton.1 hl] at hl1 ⊢
      exact (hi (by simpa using hl1)).1

theorem F_rstep_other {T id : Nat} {s : RS} (h : F T id 0 0 s []) (p : Plan) (id' ty : Nat) (b : Bool)
    (e : Nat × Nat × Nat) (hne : (id' == id) = false) (he : e.1 ≤ s.log.length) :
    F T id 0 0 (rstep p id' ty none (s, b) e).1 [] := by
  refine rstep_ind (Q := (F T id 0 0 · [])) (fun _ => h) fun _ _ => ?_
  rw [nest_none]
  refine F_thenSave (F_deliver h id' e.2.2 (fun _ hl => hl) fun hd hl => ?_) p id' e.1 he
    fun hi => nomatch hne.symm.trans hi
  rw [deliveredTo_deliver, hne, if_neg Bool.false_ne_true, List.append_nil]
  exact h.live hd hl

theorem F_replay_other {T id : Nat} {s : RS} (h : F T id 0 0 s []) (p : Plan) (id' ty : Nat)
    (hne : (id' == id) = false) : F T id 0 0 (replay p id' ty none s) [] :=
  replay_ind (I := fun _ => (F T id 0 0 · [])) (fun _ _ _ b _ hj hI => F_rstep_other hI p id' ty b _ hne hj)
    (savedOf_le_of_W h.w id') h

/-- replay of `id` itself: it is not live yet, and has been handed everything of its type among `pre` -/
structure H (T id : Nat) (s : RS) (pre : List (Nat × Nat)) : Prop where
  f : F T id 0 0 s []
  nolive : liveOf s id = []
  cov : s.dead = false → List.Sublist (typed pre T) (deliveredTo s id)

theorem H_frame (T id : Nat) (pre : List (Nat × Nat)) : Frame (H T id · pre) :=
  ⟨fun h => ⟨F_bump h.f, h.nolive, h.cov⟩, fun h => ⟨F_die h.f, rfl, fun hd => nomatch hd⟩⟩

theorem H_rstep {T id : Nat} {s : RS} {log : List (Nat × Nat)} {k : Nat} {e : Nat × Nat}
    (h : H T id s (log.take k)) (hlog : s.log = log) (he : log[k]? = some e) (p : Plan) (b : Bool) :
    H T id (rstep p id T none (s, b) (k + 1, e.1, e.2)).1 (log.take (k + 1)) := by
  have ht : log.take (k + 1) = log.take k ++ [e] := by rw [List.take_add_one, he]; rfl
  refine rstep_ind (Q := (H T id · (log.take (k + 1)))) (fun hskip => ⟨h.f, h.nolive, fun hd => ?_⟩) fun hd hty => ?_
  · rw [ht, typed_append, typed_single, beq_false_of_ne (hskip hd), if_neg Bool.false_ne_true, List.append_nil]
    exact h.cov hd
  · rw [nest_none]
    have K : List.Sublist (typed (log.take (k + 1)) T) (deliveredTo (deliver s id e.2) id) := by
      rw [ht, typed_append, typed_single, deliveredTo_deliver, BEq.rfl, if_pos rfl,
        if_pos (show (e.1 == T) = true from beq_iff_eq.2 hty)]
      exact (h.cov hd).append (List.Sublist.refl _)
    exact thenSave_ind (H_frame T id _)
      ⟨F_deliver h.f id e.2 (fun _ hl => hl) fun _ hl => absurd h.nolive hl, h.nolive, fun _ => K⟩
      fun hb => ⟨F_save hb.f id (k + 1) (hlog ▸ (List.getElem?_eq_some_iff.1 he).1) fun _ => hlog ▸ K,
        hb.nolive, hb.cov⟩

theorem H_replay {T id : Nat} {s : RS} (h : H T id s (s.log.take (savedOf s id))) (p : Plan) :
    H T id (replay p id T none s) s.log ∧ (replay p id T none s).log = s.log := by
  have := replay_ind (p := p) (id := id) (ty := T) (pd := none)
    (I := fun k s' => H T id s' (s.log.take k) ∧ s'.log = s.log)
    (fun _ _ _ b he _ hI => ⟨H_rstep hI.1 hI.2 he p b, (log_rstep_none ..).trans hI.2⟩)
    (savedOf_le_of_W h.f.w id) ⟨h, rfl⟩
  rwa [List.take_of_length_le (Nat.le_refl _)] at this

theorem A_subscribe {T id : Nat} {s : RS} (h : A T id s) (p : Plan) (id' ty : Nat)
    (hself : (id' == id) = true → ty = T ∧ liveOf s id = []) : F T id 0 0 (subscribe p s id' ty none) [] := by
  refine subscribe_ind (F_frame T id 0 0 []) (F_err · id') h.2 fun h2 => ?_
  have hl2 : liveOf (bump (bump s)) id = liveOf s id := rfl
  generalize bump (bump s) = s2 at h2 hl2 ⊢
  cases hid : id' == id
  · have hF := F_replay_other h2 p id' ty hid
    exact attach_ind (P := (F T id 0 0 · [])) hF fun hd => F_addLive hF hd id' ty fun hi => nomatch hid.symm.trans hi
  · obtain ⟨hty, hnl⟩ := hself hid
    simp only [beq_iff_eq] at hid
    subst hid hty
    obtain ⟨hH, hlog⟩ := H_replay ⟨h2, hl2.trans hnl, fun _ => h2.saved⟩ p
    exact attach_ind (P := (F ty id' 0 0 · [])) hH.f fun hd =>
      F_addLive hH.f hd id' ty fun _ => ⟨rfl, hlog ▸ hH.cov hd⟩

theorem A_restart {T id : Nat} {s : RS} (h : A T id s) : A T id { s with last := 0, live := [] } :=
  ⟨h.1, F_noLive ⟨h.2.w.1, Nat.zero_le _⟩ (Or.inl rfl) h.2.saved rfl fun _ => rfl⟩

theorem A_init (T id : Nat) : A T id {} :=
  ⟨rfl, F_noLive W_init (Or.inl rfl) (List.Sublist.refl _) rfl fun _ => rfl⟩

theorem A_run (p : Plan) (tyOf : Nat → Nat) (id : Nat) : ∀ (ops : List ROp) (s : RS),
    wellFormedFrom p tyOf s ops = true → A (tyOf id) id s → A (tyOf id) id (ops.foldl (stepOp p) s) :=
  run_ind wellFormedFrom_cons fun {s op} hop h => by
    cases op with
    | publish ty r => exact A_undead (A_publish h p ty r)
    | subscribe id' ty pd =>
      obtain ⟨hty, hnl, rfl⟩ := hop id' ty pd rfl
      refine A_undead (A_subscribe h p id' ty fun hid => ?_)
      rw [beq_iff_eq] at hid
      subst hid
      exact ⟨hty, hnl⟩
    | restart => exact A_restart h

/-- the positions saved for `id` so far never went back, and none lies beyond the one that is saved now -/
structure M (id : Nat) (s : RS) : Prop where
  pw : List.Pairwise (· ≤ ·) (savesOf s id)
  ub : ∀ x ∈ savesOf s id, x ≤ savedOf s id
  w : W s
  last : s.last = 0 ∨ s.last = s.log.length

theorem savesOf_save (s : RS) (i off id : Nat) :
    savesOf (save s i off) id = savesOf s id ++ (if i == id then [off] else []) := by
  simp only [savesOf, save, List.filter_append, List.map_append, List.filter_cons, List.filter_nil]
  cases i == id <;> simp

theorem M_bump {id : Nat} {s : RS} (h : M id s) : M id (bump s) := ⟨h.pw, h.ub, h.w, h.last⟩
theorem M_deliver {id : Nat} {s : RS} (h : M id s) (i r : Nat) : M id (deliver s i r) := ⟨h.pw, h.ub, h.w, h.last⟩
theorem M_err {id : Nat} {s : RS} (h : M id s) (i : Nat) : M id (err s i) := ⟨h.pw, h.ub, h.w, h.last⟩
theorem M_addLive {id : Nat} {s : RS} (h : M id s) (i t : Nat) : M id (addLive s i t) := ⟨h.pw, h.ub, h.w, h.last⟩
theorem M_undead {id : Nat} {s : RS} (h : M id s) : M id (undead s) := ⟨h.pw, h.ub, h.w, h.last⟩
theorem M_die {id : Nat} {s : RS} (h : M id s) : M id (die s) := ⟨h.pw, h.ub, W_die h.w, Or.inl rfl⟩
theorem M_app {id : Nat} {s : RS} (h : M id s) (ty r : Nat) : M id (app s ty r) :=
  ⟨h.pw, h.ub, W_app h.w ty r, Or.inr (by simp [app])⟩

theorem M_save {id : Nat} {s : RS} (h : M id s) (i off : Nat) (hs : (i == id) = true → savedOf s id ≤ off)
    (ho : off ≤ s.log.length) : M id (save s i off) := by
  refine ⟨?_, ?_, W_save h.w i off ho, h.last⟩
  · rw [savesOf_save]
    cases hi : i == id
    · simpa using h.pw
    · simp only [if_true]
      rw [List.pairwise_append]
      refine ⟨h.pw, List.pairwise_singleton _ _, ?_⟩
      intro a ha b hb
      simp only [List.mem_cons, List.not_mem_nil, or_false] at hb
      subst hb
      exact Nat.le_trans (h.ub a ha) (hs hi)
  · rw [savesOf_save, savedOf_save]
    cases hi : i == id
    · simpa using h.ub
    · simp only [if_true]
      intro x hx
      simp only [List.mem_append, List.mem_cons, List.not_mem_nil, or_false] at hx
      rcases hx with hx | rfl
      · exact Nat.le_trans (h.ub x hx) (hs hi)
      · exact Nat.le_refl _

theorem M_frame (id : Nat) : Frame (M id) := ⟨M_bump, M_die⟩

theorem M_thenSave {id : Nat} {s : RS} (h : M id s) (p : Plan) (i off : Nat)
    (hs : (i == id) = true → savedOf s id ≤ off) (ho : off ≤ s.log.length) : M id (thenSave p i off s) :=
  thenSave_ind (M_frame id) h fun hb => M_save hb i off hs ho

theorem M_pstep {id : Nat} {s : RS} (h : M id s) (p : Plan) (ty r : Nat) (l : Nat × Nat) :
    M id (pstep p ty r s l) :=
  pstep_ind (fun _ => h) (fun _ _ _ => M_deliver h _ r) fun _ _ h0 =>
    -- the bus offset is the end of the log, and no saved position lies beyond that
    M_thenSave (M_deliver h _ r) p _ _ (fun _ => h.last.resolve_left h0 ▸ savedOf_le_of_W h.w id) h.w.2

theorem M_publish {id : Nat} {s : RS} (h : M id s) (p : Plan) (ty r : Nat) : M id (publish p s ty r) :=
  publish_ind (P := M id) (M_bump h) (M_app (M_bump h) ty r) (fun _ => M_die) fun s2 h2 =>
    List.foldlRecOn s2.live _ h2 fun _ h' l _ => M_pstep h' p ty r l

theorem M_rstep_other {id : Nat} {s : RS} (h : M id s) (p : Plan) (id' ty : Nat) (pd : Option (Nat × Nat))
    (b : Bool) (e : Nat × Nat × Nat) (hne : (id' == id) = false) (he : e.1 ≤ s.log.length) :
    M id (rstep p id' ty pd (s, b) e).1 :=
  rstep_ind (fun _ => h) fun _ _ =>
    M_thenSave (nest_ind (M_deliver h id' e.2.2) fun _ _ => M_publish (M_deliver h id' e.2.2) p _ _) p id' e.1
      (fun hi => nomatch hne.symm.trans hi) (Nat.le_trans he (log_nest p pd b (deliver s id' e.2.2)))

/-- replay of `id` itself while it is not live: the positions `≤ k` are behind it -/
structure Mr (id k : Nat) (s : RS) : Prop where
  m : M id s
  nolive : liveOf s id = []
  le : savedOf s id ≤ k

theorem Mr_frame (id k : Nat) : Frame (Mr id k) :=
  ⟨fun h => ⟨M_bump h.m, h.nolive, h.le⟩, fun h => ⟨M_die h.m, rfl, h.le⟩⟩

theorem Mr_deliver {id k : Nat} {s : RS} (h : Mr id k s) (i r : Nat) : Mr id k (deliver s i r) :=
  ⟨M_deliver h.m i r, h.nolive, h.le⟩

theorem Mr_pstep {id k : Nat} {s : RS} (h : Mr id k s) (p : Plan) (ty r : Nat) {l : Nat × Nat}
    (hl : (l.1 == id) = false) : Mr id k (pstep p ty r s l) :=
  pstep_ind (fun _ => h) (fun _ _ _ => Mr_deliver h _ r) fun _ _ _ =>
    thenSave_ind (Mr_frame id k) (Mr_deliver h _ r) fun hb =>
      ⟨M_save hb.m _ _ (fun hi => nomatch hl.symm.trans hi) h.m.w.2, hb.nolive, by rw [savedOf_save, hl]; exact hb.le⟩

theorem Mr_publish {id k : Nat} {s : RS} (h : Mr id k s) (p : Plan) (ty r : Nat) : Mr id k (publish p s ty r) :=
  publish_ind (P := Mr id k) ((Mr_frame id k).bump h) ⟨M_app (M_bump h.m) ty r, h.nolive, h.le⟩
    (fun _ => (Mr_frame id k).die) fun s2 h2 =>
      List.foldlRecOn s2.live _ h2 fun _ h' _ hl =>
        Mr_pstep h' p ty r (Bool.eq_false_iff.2 (List.filter_eq_nil_iff.1 h2.nolive _ hl))

theorem Mr_rstep {id k : Nat} {s : RS} (h : Mr id k s) (p : Plan) (ty : Nat) (pd : Option (Nat × Nat))
    (b : Bool) (e : Nat × Nat) (hk : k + 1 ≤ s.log.length) :
    Mr id (k + 1) (rstep p id ty pd (s, b) (k + 1, e.1, e.2)).1 :=
  rstep_ind (fun _ => ⟨h.m, h.nolive, Nat.le_succ_of_le h.le⟩) fun _ _ =>
    have hn : Mr id k (nest p pd b (deliver s id e.2)) :=
      nest_ind (Mr_deliver h id e.2) fun _ _ => Mr_publish (Mr_deliver h id e.2) p _ _
    thenSave_ind (Mr_frame id (k + 1)) ⟨hn.m, hn.nolive, Nat.le_succ_of_le hn.le⟩ fun hb =>
      ⟨M_save hb.m id (k + 1) (fun _ => hb.le) (Nat.le_trans hk (log_nest p pd b (deliver s id e.2))), hb.nolive,
        by rw [savedOf_save, BEq.rfl]; exact Nat.le_refl _⟩

theorem M_replay {id : Nat} {s : RS} (h : M id s) (p : Plan) (id' ty : Nat) (pd : Option (Nat × Nat))
    (hfresh : (id' == id) = true → liveOf s id = []) : M id (replay p id' ty pd s) := by
  cases hid : id' == id
  · exact replay_ind (I := fun _ => M id) (fun _ _ _ b _ hj hI => M_rstep_other hI p id' ty pd b _ hid hj)
      (savedOf_le_of_W h.w id') h
  · have hnl := hfresh hid
    simp only [beq_iff_eq] at hid
    subst hid
    exact (replay_ind (I := Mr id') (fun _ e _ b _ hj hI => Mr_rstep hI p ty pd b e hj)
      (savedOf_le_of_W h.w id') ⟨h, hnl, Nat.le_refl _⟩).m

theorem M_subscribe {id : Nat} {s : RS} (h : M id s) (p : Plan) (id' ty : Nat) (pd : Option (Nat × Nat))
    (hfresh : (id' == id) = true → liveOf s id = []) : M id (subscribe p s id' ty pd) :=
  subscribe_ind (M_frame id) (M_err · id') h fun h2 =>
    have hr := M_replay h2 p id' ty pd hfresh
    attach_ind hr fun _ => M_addLive hr id' ty

end Aux
end Ebu.Resume
