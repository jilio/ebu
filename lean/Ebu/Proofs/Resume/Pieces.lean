import Ebu.Spec.Resume
import Ebu.Proofs.Lists
/-!
M5 (`Ebu/Model/Resume.lean`) taken apart. `publish` and `subscribe` of the model are cut into the pieces they
are made of (a counted store operation, a handler call followed by its SaveOffset, the loop over the live
handlers, the loop over the replayed events), each with a rule saying what has to be shown about it, so that
an invariant is pushed through the model by stating what it needs at a `save`, at a `deliver` and at an `app`.
-/
namespace Ebu.Resume

namespace Aux

def bump (s : RS) : RS := { s with nops := s.nops + 1 }
def deliver (s : RS) (id r : Nat) : RS := { s with delivered := s.delivered ++ [(id, r)] }
def app (s : RS) (ty r : Nat) : RS := { s with log := s.log ++ [(ty, r)], last := s.log.length + 1 }
/-- the crash after a store operation, when the plan has one there (`c`) -/
def cd (c : Bool) (s : RS) : RS := if c then die s else s
/-- a SaveOffset, which leaves no trace when the plan makes it fail (`f`) -/
def sv (f : Bool) (s : RS) (id off : Nat) : RS := if f then s else save s id off
def failsAt (p : Plan) (s : RS) : Bool := p.failAt == some (s.nops + 1)
def crashAt (p : Plan) (s : RS) : Bool := p.crashAfter == some (s.nops + 1)
def err (s : RS) (id : Nat) : RS := { s with errs := s.errs ++ [id] }
def addLive (s : RS) (id ty : Nat) : RS := { s with live := s.live ++ [(id, ty)] }
/-- `dead` says that the process died during the current operation: `stepOp` clears it when the operation is over -/
def undead (s : RS) : RS := { s with dead := false }

theorem stepOp_publish (p : Plan) (s : RS) (ty r : Nat) :
    stepOp p s (.publish ty r) = undead (publish p s ty r) := rfl
theorem stepOp_subscribe (p : Plan) (s : RS) (id ty : Nat) (pd : Option (Nat × Nat)) :
    stepOp p s (.subscribe id ty pd) = undead (subscribe p s id ty pd) := rfl
theorem stepOp_restart (p : Plan) (s : RS) : stepOp p s .restart = { s with last := 0, live := [] } := rfl

/-- `Frame P`: the predicate `P` on states is kept by what may happen around any handler call, namely that a
store operation is counted and that the process dies -/
structure Frame (P : RS → Prop) : Prop where
  bump : ∀ {s}, P s → P (bump s)
  die : ∀ {s}, P s → P (die s)

/-- the SaveOffset that follows a handler call, unless the process is already dead -/
def thenSave (p : Plan) (id off : Nat) (s : RS) : RS :=
  if s.dead then s else cd (crashAt p s) (sv (failsAt p s) (bump s) id off)

theorem thenSave_ind {P : RS → Prop} (hP : Frame P) {p : Plan} {id off : Nat} {s : RS} (h : P s)
    (hsave : P (bump s) → P (save (bump s) id off)) : P (thenSave p id off s) := by
  unfold thenSave
  split
  · exact h
  · have h1 : P (sv (failsAt p s) (bump s) id off) := by
      unfold sv; split
      · exact hP.bump h
      · exact hsave (hP.bump h)
    unfold cd; split
    · exact hP.die h1
    · exact h1

theorem deliverAndSave_eq (p : Plan) (s : RS) (id r off : Nat) :
    deliverAndSave p s id r off =
      if off = 0 then deliver s id r
      else cd (crashAt p s) (sv (failsAt p s) (bump (deliver s id r)) id off) := rfl

/-- one round of the loop of `publish` over the live handlers -/
def pstep (p : Plan) (ty r : Nat) (s : RS) (l : Nat × Nat) : RS :=
  if s.dead || l.2 != ty then s else deliverAndSave p s l.1 r s.last

theorem publish_eq (p : Plan) (s : RS) (ty r : Nat) :
    publish p s ty r =
      let s2 := if failsAt p s then bump s else app (bump s) ty r
      if crashAt p s then die s2 else s2.live.foldl (pstep p ty r) s2 := rfl

theorem publish_ind {P Q : RS → Prop} {p : Plan} {s : RS} {ty r : Nat} (hfail : P (bump s))
    (happ : P (app (bump s) ty r)) (hdie : ∀ s2, P s2 → Q (die s2))
    (hlive : ∀ s2, P s2 → Q (s2.live.foldl (pstep p ty r) s2)) : Q (publish p s ty r) := by
  rw [publish_eq]
  have h2 : P (if failsAt p s then bump s else app (bump s) ty r) := by
    split
    · exact hfail
    · exact happ
  generalize (if failsAt p s then bump s else app (bump s) ty r) = s2 at h2
  show Q (if crashAt p s then die s2 else s2.live.foldl (pstep p ty r) s2)
  split
  · exact hdie s2 h2
  · exact hlive s2 h2

/-- `quiet`: the SaveOffset is skipped while the bus has persisted nothing since it started (`last = 0`) -/
theorem pstep_ind {Q : RS → Prop} {p : Plan} {ty r : Nat} {s : RS} {l : Nat × Nat}
    (skip : (s.dead = false → l.2 ≠ ty) → Q s)
    (quiet : s.dead = false → l.2 = ty → s.last = 0 → Q (deliver s l.1 r))
    (call : s.dead = false → l.2 = ty → s.last ≠ 0 → Q (thenSave p l.1 s.last (deliver s l.1 r))) :
    Q (pstep p ty r s l) := by
  unfold pstep
  split
  · rename_i h; exact skip fun hd => by simpa [hd] using h
  · rename_i h
    simp only [Bool.or_eq_true, not_or, Bool.not_eq_true, bne_eq_false_iff_eq] at h
    rw [deliverAndSave_eq]
    split
    · rename_i h0; exact quiet h.1 h.2 h0
    · rename_i h0
      have := call h.1 h.2 h0
      rwa [thenSave, show (deliver s l.1 r).dead = false from h.1] at this

/-- the publish that the replay handler makes from inside its first call, if the history has it make one (`pd`) -/
def nest (p : Plan) (pd : Option (Nat × Nat)) (first : Bool) (s : RS) : RS :=
  match (if first then pd else none) with
  | some (t', r') => publish p s t' r'
  | none => s

theorem nest_ind {P : RS → Prop} {p : Plan} {pd : Option (Nat × Nat)} {first : Bool} {s : RS} (h : P s)
    (hp : ∀ t r, P (publish p s t r)) : P (nest p pd first s) := by
  unfold nest; split
  · exact hp _ _
  · exact h

theorem nest_none (p : Plan) (first : Bool) (s : RS) : nest p none first s = s := by
  unfold nest; cases first <;> rfl

/-- one round of the replay loop of `subscribe`; the flag says that the handler has not been called yet -/
def rstep (p : Plan) (id ty : Nat) (pd : Option (Nat × Nat)) (acc : RS × Bool) (e : Nat × Nat × Nat) : RS × Bool :=
  if acc.1.dead || e.2.1 != ty then acc
  else
    let s2 := nest p pd acc.2 (deliver acc.1 id e.2.2)
    if s2.dead then (s2, false)
    else (cd (crashAt p s2) (sv (failsAt p s2) (bump s2) id e.1), false)

theorem rstep_ind {Q : RS → Prop} {p : Plan} {id ty : Nat} {pd : Option (Nat × Nat)} {s : RS} {b : Bool}
    {e : Nat × Nat × Nat} (skip : (s.dead = false → e.2.1 ≠ ty) → Q s)
    (call : s.dead = false → e.2.1 = ty → Q (thenSave p id e.1 (nest p pd b (deliver s id e.2.2)))) :
    Q (rstep p id ty pd (s, b) e).1 := by
  unfold rstep
  split
  · rename_i h; exact skip fun hd => by simpa [hd] using h
  · rename_i h
    simp only [Bool.or_eq_true, not_or, Bool.not_eq_true, bne_eq_false_iff_eq] at h
    have := call h.1 h.2
    unfold thenSave at this
    cases hd : (nest p pd b (deliver s id e.2.2)).dead <;>
      simp only [hd, Bool.false_eq_true, if_false, if_true] at this ⊢ <;> exact this

/-- a counted store operation of `SubscribeWithReplay`: the process may die after it, or it fails the call -/
def gate (p : Plan) (id : Nat) (k : RS → RS) (s : RS) : RS :=
  if crashAt p s then die (bump s) else if failsAt p s then err (bump s) id else k (bump s)

def replay (p : Plan) (id ty : Nat) (pd : Option (Nat × Nat)) (s : RS) : RS :=
  ((eventsAfter s.log (savedOf s id)).foldl (rstep p id ty pd) (s, true)).1

def attach (id ty : Nat) (s : RS) : RS := if s.dead then s else addLive s id ty

/-- LoadOffset, ReadStream, the replay, and only then the live registration -/
theorem subscribe_eq (p : Plan) (s : RS) (id ty : Nat) (pd : Option (Nat × Nat)) :
    subscribe p s id ty pd = gate p id (gate p id fun s => attach id ty (replay p id ty pd s)) s := by
  unfold gate replay attach
  rfl

theorem gate_ind {P : RS → Prop} (hP : Frame P) {p : Plan} {id : Nat} (herr : ∀ {s}, P s → P (err s id))
    {k : RS → RS} {s : RS} (h : P s) (hk : P (bump s) → P (k (bump s))) : P (gate p id k s) := by
  unfold gate; split
  · exact hP.die (hP.bump h)
  · split
    · exact herr (hP.bump h)
    · exact hk (hP.bump h)

theorem subscribe_ind {P : RS → Prop} (hP : Frame P) {p : Plan} {s : RS} {id ty : Nat} {pd : Option (Nat × Nat)}
    (herr : ∀ {s}, P s → P (err s id)) (h : P s)
    (hk : P (bump (bump s)) → P (attach id ty (replay p id ty pd (bump (bump s))))) :
    P (subscribe p s id ty pd) := by
  rw [subscribe_eq]
  exact gate_ind hP herr h fun h1 => gate_ind hP herr h1 hk

theorem attach_ind {P : RS → Prop} {id ty : Nat} {s : RS} (h : P s) (ha : s.dead = false → P (addLive s id ty)) :
    P (attach id ty s) := by
  unfold attach; split
  · exact h
  · rename_i hd; exact ha (by simpa using hd)

@[simp] theorem log_bump (s : RS) : (bump s).log = s.log := rfl
@[simp] theorem log_deliver (s : RS) (id r : Nat) : (deliver s id r).log = s.log := rfl
@[simp] theorem log_die (s : RS) : (die s).log = s.log := rfl
@[simp] theorem log_save (s : RS) (id off : Nat) : (save s id off).log = s.log := rfl
@[simp] theorem log_app (s : RS) (ty r : Nat) : (app s ty r).log = s.log ++ [(ty, r)] := rfl

@[simp] theorem log_thenSave (p : Plan) (i off : Nat) (s : RS) : (thenSave p i off s).log = s.log :=
  thenSave_ind (P := fun s' => s'.log = s.log) ⟨fun h => h, fun h => h⟩ rfl fun h => h

theorem log_pstep (p : Plan) (ty r : Nat) (s : RS) (l : Nat × Nat) : (pstep p ty r s l).log = s.log :=
  pstep_ind (Q := fun s' => s'.log = s.log) (fun _ => rfl) (fun _ _ _ => rfl) fun _ _ _ => log_thenSave ..

theorem log_pfold (p : Plan) (ty r : Nat) (L : List (Nat × Nat)) (s : RS) :
    (L.foldl (pstep p ty r) s).log = s.log :=
  List.foldlRecOn L _ (motive := fun s' => s'.log = s.log) rfl fun s' h l _ => (log_pstep p ty r s' l).trans h

theorem log_publish (p : Plan) (s : RS) (ty r : Nat) : s.log.length ≤ (publish p s ty r).log.length :=
  publish_ind (P := fun s' => s.log.length ≤ s'.log.length) (Q := fun s' => s.log.length ≤ s'.log.length)
    (Nat.le_refl _) (by simp) (fun _ h => h) fun s2 h => by rw [log_pfold]; exact h

theorem log_nest (p : Plan) (pd : Option (Nat × Nat)) (first : Bool) (s : RS) :
    s.log.length ≤ (nest p pd first s).log.length :=
  nest_ind (P := fun s' => s.log.length ≤ s'.log.length) (Nat.le_refl _) fun _ _ => log_publish ..

theorem log_rstep (p : Plan) (id ty : Nat) (pd : Option (Nat × Nat)) (s : RS) (b : Bool) (e : Nat × Nat × Nat) :
    s.log.length ≤ (rstep p id ty pd (s, b) e).1.log.length :=
  rstep_ind (Q := fun s' => s.log.length ≤ s'.log.length) (fun _ => Nat.le_refl _) fun _ _ => by
    rw [log_thenSave]; exact log_nest p pd b (deliver s id e.2.2)

theorem log_rstep_none (p : Plan) (id ty : Nat) (s : RS) (b : Bool) (e : Nat × Nat × Nat) :
    (rstep p id ty none (s, b) e).1.log = s.log :=
  rstep_ind (Q := fun s' => s'.log = s.log) (fun _ => rfl) fun _ _ => by rw [log_thenSave, nest_none]; rfl

/-- the events `l` with the positions `k + 1, k + 2, …`: what `eventsAfter` returns, without the filter -/
def evsFrom : Nat → List (Nat × Nat) → List (Nat × Nat × Nat)
  | _, [] => []
  | k, e :: l => (k + 1, e.1, e.2) :: evsFrom (k + 1) l

theorem evsFrom_of_le (f : Nat) : ∀ (l : List (Nat × Nat)) (k : Nat), f ≤ k →
    ((List.range' k l.length).zip l).filterMap
      (fun (x : Nat × Nat × Nat) => if f < x.1 + 1 then some (x.1 + 1, x.2.1, x.2.2) else none)
      = evsFrom k l := by
  intro l
  induction l with
  | nil => intro _ _; rfl
  | cons e l ih =>
    intro k h
    simp only [List.length_cons, List.range'_succ, List.zip_cons_cons, List.filterMap_cons,
      Nat.lt_succ_of_le h, if_true, ih (k + 1) (Nat.le_succ_of_le h), evsFrom]

/-- of the positions `k + 1, k + 2, …` of `l` those after `k + d` are kept: the first `d` go -/
theorem evsFrom_drop : ∀ (l : List (Nat × Nat)) (k d : Nat),
    ((List.range' k l.length).zip l).filterMap
      (fun (x : Nat × Nat × Nat) => if k + d < x.1 + 1 then some (x.1 + 1, x.2.1, x.2.2) else none)
      = evsFrom (k + d) (l.drop d) := by
  intro l
  induction l with
  | nil => intro k d; rw [List.drop_nil]; rfl
  | cons e l ih =>
    intro k d
    cases d with
    | zero => exact evsFrom_of_le _ _ _ (Nat.le_refl _)
    | succ d =>
      have := ih (k + 1) d
      rw [Nat.add_right_comm k 1 d] at this
      have hn : ¬ k + d + 1 < k + 1 := by omega
      simp only [List.length_cons, List.range'_succ, List.zip_cons_cons, List.filterMap_cons, ← Nat.add_assoc,
        if_neg hn, this, List.drop_succ_cons]

theorem eventsAfter_eq (log : List (Nat × Nat)) (f : Nat) :
    eventsAfter log f = evsFrom f (log.drop f) := by
  have := evsFrom_drop log 0 f
  rw [Nat.zero_add] at this
  rw [← this, eventsAfter, List.range_eq_range']

/-- the replay visits the positions after the saved one in order; `I j` is what holds once position `j` is
behind it. What the handlers publish meanwhile only lengthens the log, so every position visited lies within it -/
theorem replay_ind {p : Plan} {id ty : Nat} {pd : Option (Nat × Nat)} {I : Nat → RS → Prop} {s : RS}
    (step : ∀ j e s' b, s.log[j]? = some e → j + 1 ≤ s'.log.length → I j s' →
      I (j + 1) (rstep p id ty pd (s', b) (j + 1, e.1, e.2)).1)
    (hk : savedOf s id ≤ s.log.length) (h : I (savedOf s id) s) : I s.log.length (replay p id ty pd s) := by
  have : ∀ (l pre : List (Nat × Nat)) (acc : RS × Bool), s.log = pre ++ l → s.log.length ≤ acc.1.log.length →
      I pre.length acc.1 → I s.log.length ((evsFrom pre.length l).foldl (rstep p id ty pd) acc).1 := by
    intro l
    induction l with
    | nil => intro pre acc hl _ h; rw [hl, List.append_nil]; exact h
    | cons e l ih =>
      intro pre acc hl hg h
      have he : s.log[pre.length]? = some e := by rw [hl]; simp
      have := ih (pre ++ [e]) (rstep p id ty pd acc (pre.length + 1, e.1, e.2)) (by rw [hl]; simp)
        (Nat.le_trans hg (log_rstep p id ty pd acc.1 acc.2 _))
        (by rw [List.length_append]
            exact step _ e acc.1 acc.2 he (Nat.le_trans (List.getElem?_eq_some_iff.1 he).1 hg) h)
      rwa [List.length_append] at this
  have := this (s.log.drop (savedOf s id)) (s.log.take (savedOf s id)) (s, true) (List.take_append_drop _ _).symm
    (Nat.le_refl _)
  rw [List.length_take, Nat.min_eq_left hk] at this
  rw [replay, eventsAfter_eq]
  exact this h

def liveOf (s : RS) (id : Nat) : List (Nat × Nat) := s.live.filter (fun l => l.1 == id)

theorem isLive_eq_false {s : RS} {id : Nat} : isLive s id = false ↔ liveOf s id = [] := by
  unfold isLive liveOf
  rw [List.any_eq_false, List.filter_eq_nil_iff]

theorem wellFormedFrom_cons {p : Plan} {tyOf : Nat → Nat} {s : RS} {op : ROp} {rest : List ROp}
    (h : wellFormedFrom p tyOf s (op :: rest) = true) :
    (∀ id ty pd, op = .subscribe id ty pd → ty = tyOf id ∧ liveOf s id = [] ∧ pd = none) ∧
    wellFormedFrom p tyOf (stepOp p s op) rest = true := by
  simp only [wellFormedFrom, Bool.and_eq_true] at h
  refine ⟨fun id ty pd hop => ?_, h.2⟩
  subst hop
  have h1 := h.1
  simp only [Bool.and_eq_true, beq_iff_eq, Bool.not_eq_true', Option.isNone_iff_eq_none, isLive_eq_false] at h1
  exact ⟨h1.1.1, h1.1.2, h1.2⟩

/-- a guard `G` on histories (`wellFormedFrom`, `freshSubsFrom`) imposes a condition `C` on each operation in the
state it starts from: what every operation meeting `C` keeps is kept by the histories that `G` lets through -/
theorem run_ind {p : Plan} {P : RS → Prop} {G : RS → List ROp → Prop} {C : RS → ROp → Prop}
    (cons : ∀ {s op rest}, G s (op :: rest) → C s op ∧ G (stepOp p s op) rest)
    (step : ∀ {s op}, C s op → P s → P (stepOp p s op)) :
    ∀ (ops : List ROp) (s : RS), G s ops → P s → P (ops.foldl (stepOp p) s)
  | [], _, _, h => h
  | _ :: ops, _, hG, h => run_ind cons step ops _ (cons hG).2 (step (cons hG).1 h)

theorem deliveredTo_deliver (s : RS) (i r id : Nat) :
    deliveredTo (deliver s i r) id = deliveredTo s id ++ (if i == id then [r] else []) := by
  simp only [deliveredTo, deliver, List.filter_append, List.map_append, List.filter_cons, List.filter_nil]
  cases h : i == id <;> simp

@[simp] theorem deliveredTo_bump (s : RS) (id : Nat) : deliveredTo (bump s) id = deliveredTo s id := rfl
@[simp] theorem deliveredTo_save (s : RS) (i off id : Nat) : deliveredTo (save s i off) id = deliveredTo s id := rfl
@[simp] theorem deliveredTo_die (s : RS) (id : Nat) : deliveredTo (die s) id = deliveredTo s id := rfl
@[simp] theorem deliveredTo_app (s : RS) (ty r id : Nat) : deliveredTo (app s ty r) id = deliveredTo s id := rfl
@[simp] theorem deliveredTo_err (s : RS) (i id : Nat) : deliveredTo (err s i) id = deliveredTo s id := rfl
@[simp] theorem deliveredTo_addLive (s : RS) (i t id : Nat) : deliveredTo (addLive s i t) id = deliveredTo s id := rfl
@[simp] theorem deliveredTo_cd (c : Bool) (s : RS) (id : Nat) : deliveredTo (cd c s) id = deliveredTo s id := by
  unfold cd; split <;> rfl
@[simp] theorem deliveredTo_sv (f : Bool) (s : RS) (i off id : Nat) :
    deliveredTo (sv f s i off) id = deliveredTo s id := by
  unfold sv; split <;> rfl

theorem liveOf_addLive (s : RS) (i t id : Nat) :
    liveOf (addLive s i t) id = liveOf s id ++ (if i == id then [(i, t)] else []) := by
  simp only [liveOf, addLive, List.filter_append, List.filter_cons, List.filter_nil]

theorem savedOf_save (s : RS) (i off id : Nat) :
    savedOf (save s i off) id = if i == id then off else savedOf s id := by
  simp only [savedOf, save, Lists.find?_upsert]
  cases i == id <;> rfl

@[simp] theorem savedOf_bump (s : RS) (id : Nat) : savedOf (bump s) id = savedOf s id := rfl
@[simp] theorem savedOf_deliver (s : RS) (i r id : Nat) : savedOf (deliver s i r) id = savedOf s id := rfl
@[simp] theorem savedOf_die (s : RS) (id : Nat) : savedOf (die s) id = savedOf s id := rfl
@[simp] theorem savedOf_app (s : RS) (ty r id : Nat) : savedOf (app s ty r) id = savedOf s id := rfl
@[simp] theorem savedOf_err (s : RS) (i id : Nat) : savedOf (err s i) id = savedOf s id := rfl
@[simp] theorem savedOf_addLive (s : RS) (i t id : Nat) : savedOf (addLive s i t) id = savedOf s id := rfl
@[simp] theorem savedOf_cd (c : Bool) (s : RS) (id : Nat) : savedOf (cd c s) id = savedOf s id := by
  unfold cd; split <;> rfl

theorem failsAt_none (s : RS) : failsAt {} s = false := rfl
theorem crashAt_none (s : RS) : crashAt {} s = false := rfl

theorem typed_append (l1 l2 : List (Nat × Nat)) (T : Nat) : typed (l1 ++ l2) T = typed l1 T ++ typed l2 T := by
  simp [typed, List.filter_append]

theorem typed_single (e : Nat × Nat) (T : Nat) : typed [e] T = if e.1 == T then [e.2] else [] := by
  simp only [typed, List.filter_cons, List.filter_nil]
  cases e.1 == T <;> rfl

theorem typed_take_prefix (log : List (Nat × Nat)) (k T : Nat) : typed (log.take k) T <+: typed log T := by
  refine ⟨typed (log.drop k) T, ?_⟩
  rw [← typed_append, List.take_append_drop]

end Aux
end Ebu.Resume
