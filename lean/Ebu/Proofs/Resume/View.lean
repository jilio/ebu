import Ebu.Proofs.Resume.Pieces
/-!
M5 without faults: what one subscription observes (`View`) evolves as a function of what it observed before,
whatever the other subscriptions do (`view_stepOp`); "each event exactly once" is an invariant of views (`EV`).
-/
namespace Ebu.Resume
namespace Aux

/-- what subscription `id` can observe of a state -/
structure View where
  log : List (Nat × Nat)
  live : List (Nat × Nat)
  delivered : List Nat
  saved : Nat

def view (s : RS) (id : Nat) : View := ⟨s.log, liveOf s id, deliveredTo s id, savedOf s id⟩

def View.handle (v : View) (r off : Nat) : View := { v with delivered := v.delivered ++ [r], saved := off }

/-- the event is appended and handed to every live copy of its type, which saves the new end of the log -/
def View.publish (v : View) (ty r : Nat) : View :=
  (v.live.filter (fun l => l.2 == ty)).foldl (fun w _ => w.handle r (v.log.length + 1))
    { v with log := v.log ++ [(ty, r)] }

/-- the events of the type after the saved position are handed over one by one, then the subscription is live -/
def View.subscribe (v : View) (id ty : Nat) : View :=
  let w := ((eventsAfter v.log v.saved).filter (fun e => e.2.1 == ty)).foldl (fun w e => w.handle e.2.2 e.1) v
  { w with live := w.live ++ [(id, ty)] }

def View.step (id : Nat) (v : View) : ROp → View
  | .publish ty r => v.publish ty r
  | .subscribe id' ty _ => if id' == id then v.subscribe id ty else v
  | .restart => { v with live := [] }

/-- what a fault-free loop needs of the state `s'` it has reached from `s` to go on: the process is alive and
the bus offset has not moved -/
structure Calm (s s' : RS) : Prop where
  dead : s'.dead = false
  last : s'.last = s.last

theorem Calm.trans {s s' s'' : RS} (h : Calm s s') (h' : Calm s' s'') : Calm s s'' :=
  ⟨h'.dead, h'.last.trans h.last⟩

/-- a handler call and its save when nothing goes wrong -/
theorem view_call {s : RS} (hd : s.dead = false) (i r off id : Nat) :
    Calm s (thenSave {} i off (deliver s i r)) ∧
    view (thenSave {} i off (deliver s i r)) id = if i == id then (view s id).handle r off else view s id := by
  have : thenSave {} i off (deliver s i r) = save (bump (deliver s i r)) i off := by
    rw [thenSave, if_neg (by rw [show (deliver s i r).dead = false from hd]; exact Bool.false_ne_true)]; rfl
  rw [this]
  refine ⟨⟨hd, rfl⟩, ?_⟩
  show View.mk s.log (liveOf s id) (deliveredTo (deliver s i r) id) (savedOf (save (bump (deliver s i r)) i off) id) = _
  rw [deliveredTo_deliver, savedOf_save]
  cases i == id <;> simp [View.handle, view]

theorem view_pstep {s : RS} (hd : s.dead = false) (h0 : s.last ≠ 0) (ty r : Nat) (l : Nat × Nat) (id : Nat) :
    Calm s (pstep {} ty r s l) ∧
    view (pstep {} ty r s l) id = if l.2 == ty && l.1 == id then (view s id).handle r s.last else view s id := by
  refine pstep_ind (Q := fun s' => Calm s s' ∧ view s' id = _) (fun hs => ?_) (fun _ _ h => absurd h h0)
    fun _ hty _ => ?_
  · rw [beq_false_of_ne (hs hd), Bool.false_and]
    exact ⟨⟨hd, rfl⟩, rfl⟩
  · rw [beq_iff_eq.2 hty, Bool.true_and]
    exact view_call hd l.1 r s.last id

theorem view_rstep {s : RS} (hd : s.dead = false) (id' ty : Nat) (b : Bool) (e : Nat × Nat × Nat) (id : Nat) :
    Calm s (rstep {} id' ty none (s, b) e).1 ∧
    view (rstep {} id' ty none (s, b) e).1 id
      = if e.2.1 == ty && id' == id then (view s id).handle e.2.2 e.1 else view s id := by
  refine rstep_ind (Q := fun s' => Calm s s' ∧ view s' id = _) (fun hs => ?_) fun _ hty => ?_
  · rw [beq_false_of_ne (hs hd), Bool.false_and]
    exact ⟨⟨hd, rfl⟩, rfl⟩
  · rw [beq_iff_eq.2 hty, Bool.true_and, nest_none]
    exact view_call hd id' e.2.2 e.1 id

/-- a loop whose steps each apply `g` to the view or leave it alone applies `g` along the filtered list -/
theorem foldl_view {α σ : Type} {f : σ → α → σ} {ok : σ → Prop} {V : σ → View} {c : α → Bool}
    {g : View → α → View} (step : ∀ s x, ok s → ok (f s x) ∧ V (f s x) = if c x then g (V s) x else V s) :
    ∀ (L : List α) (s : σ), ok s → ok (L.foldl f s) ∧ V (L.foldl f s) = (L.filter c).foldl g (V s) := by
  intro L
  induction L with
  | nil => intro s h; exact ⟨h, rfl⟩
  | cons x L ih =>
    intro s h
    obtain ⟨h1, h2⟩ := step s x h
    obtain ⟨h3, h4⟩ := ih _ h1
    refine ⟨h3, ?_⟩
    rw [List.foldl_cons, h4, h2, List.filter_cons]
    cases c x <;> rfl

theorem view_publish {s : RS} (hd : s.dead = false) (ty r id : Nat) :
    (publish {} s ty r).dead = false ∧ view (publish {} s ty r) id = (view s id).publish ty r := by
  have h0 : (app (bump s) ty r).last ≠ 0 := Nat.succ_ne_zero _
  obtain ⟨hc, hv⟩ := foldl_view (ok := Calm (app (bump s) ty r)) (V := (view · id))
    (g := fun w _ => w.handle r (s.log.length + 1))
    (fun s' l h => by
      obtain ⟨a, b⟩ := view_pstep h.dead (h.last ▸ h0) ty r l id
      exact ⟨h.trans a, h.last ▸ b⟩)
    (app (bump s) ty r).live (app (bump s) ty r) ⟨hd, rfl⟩
  rw [← List.filter_filter] at hv
  exact ⟨hc.dead, hv⟩

theorem view_replay {s : RS} (hd : s.dead = false) (id' ty id : Nat) :
    Calm s (replay {} id' ty none s) ∧
    view (replay {} id' ty none s) id
      = ((eventsAfter s.log (savedOf s id')).filter (fun e => e.2.1 == ty && id' == id)).foldl
          (fun w e => w.handle e.2.2 e.1) (view s id) :=
  foldl_view (f := rstep {} id' ty none) (ok := fun acc => Calm s acc.1) (V := fun acc => view acc.1 id)
    (g := fun w e => w.handle e.2.2 e.1)
    (fun acc e h => by
      obtain ⟨a, b⟩ := view_rstep h.dead id' ty acc.2 e id
      exact ⟨h.trans a, b⟩)
    (eventsAfter s.log (savedOf s id')) (s, true) ⟨hd, rfl⟩

theorem view_addLive (s : RS) (i t id : Nat) :
    view (addLive s i t) id
      = { view s id with live := (view s id).live ++ if i == id then [(i, t)] else [] } := by
  unfold view
  rw [liveOf_addLive]
  rfl

theorem view_subscribe {s : RS} (hd : s.dead = false) (id' ty id : Nat) :
    (subscribe {} s id' ty none).dead = false ∧
    view (subscribe {} s id' ty none) id = if id' == id then (view s id).subscribe id ty else view s id := by
  have hs : subscribe {} s id' ty none = attach id' ty (replay {} id' ty none (bump (bump s))) := by
    rw [subscribe_eq]; rfl
  obtain ⟨hc, hv⟩ := view_replay (s := bump (bump s)) hd id' ty id
  rw [hs]
  generalize replay {} id' ty none (bump (bump s)) = s' at hc hv ⊢
  rw [attach, hc.dead, if_neg Bool.false_ne_true, view_addLive, hv]
  refine ⟨hc.dead, ?_⟩
  cases hid : id' == id
  · rw [List.filter_eq_nil_iff.2 fun _ _ => by simp, if_neg Bool.false_ne_true, if_neg Bool.false_ne_true,
      List.append_nil]
    rfl
  · rw [beq_iff_eq] at hid
    subst hid
    simp only [Bool.and_true]
    rfl

theorem view_undead (s : RS) (id : Nat) : view (undead s) id = view s id := rfl

/-- no handler publishes during the replay. A quantifier and not a `match` on `op`: Lean makes one matcher for all
matches of one shape on `ROp` and names it after the first definition that has one. That has to be `Aux.keep` of
`Proofs/Resume.lean`, which imports this file: the statement of `Ebu.Resume.ids_independent` there writes the `match` of
`keep` out and elaborates to `Aux.keep.match_1` -/
def noNested (op : ROp) : Prop := ∀ id ty pd, op = .subscribe id ty pd → pd = none

theorem view_stepOp {s : RS} (hd : s.dead = false) (id : Nat) {op : ROp} (hop : noNested op) :
    (stepOp {} s op).dead = false ∧ view (stepOp {} s op) id = (view s id).step id op := by
  cases op with
  | publish ty r => exact ⟨rfl, (view_undead _ id).trans (view_publish hd ty r id).2⟩
  | subscribe id' ty pd =>
    cases hop id' ty pd rfl
    exact ⟨rfl, (view_undead _ id).trans (view_subscribe hd id' ty id).2⟩
  | restart => exact ⟨hd, rfl⟩

theorem view_foldl (id : Nat) : ∀ (ops : List ROp) (s : RS), s.dead = false → (∀ op ∈ ops, noNested op) →
    view (ops.foldl (stepOp {}) s) id = ops.foldl (View.step id) (view s id) := by
  intro ops
  induction ops with
  | nil => intro s _ _; rfl
  | cons op ops ih =>
    intro s hd h
    obtain ⟨a, b⟩ := view_stepOp hd id (h op (List.mem_cons_self ..))
    rw [List.foldl_cons, List.foldl_cons, ih _ a fun o ho => h o (List.mem_cons_of_mem _ ho), b]

theorem noNested_of_wellFormedFrom (p : Plan) (tyOf : Nat → Nat) : ∀ (ops : List ROp) (s : RS),
    wellFormedFrom p tyOf s ops = true → ∀ op ∈ ops, noNested op := by
  intro ops
  induction ops with
  | nil => intro _ _ _ h; cases h
  | cons op ops ih =>
    intro s h o ho
    obtain ⟨hop, h⟩ := wellFormedFrom_cons h
    rcases List.mem_cons.1 ho with rfl | ho
    · exact fun id ty pd ho => (hop id ty pd ho).2.2
    · exact ih _ h o ho

/-- exactly once: `id` has been handed the events of its type up to its saved position, each once and in
log order; it has at most one live copy, and while that is live nothing of its type is outstanding -/
structure EV (T id : Nat) (v : View) : Prop where
  le : v.saved ≤ v.log.length
  saved : v.delivered = typed (v.log.take v.saved) T
  live : v.live = [] ∨ (v.live = [(id, T)] ∧ v.delivered = typed v.log T)

theorem EV_publish {T id : Nat} {v : View} (h : EV T id v) (ty r : Nat) : EV T id (v.publish ty r) := by
  have hle : v.saved ≤ (v.log ++ [(ty, r)]).length := by
    rw [List.length_append]; exact Nat.le_trans h.le (Nat.le_add_right _ _)
  have htk : v.delivered = typed ((v.log ++ [(ty, r)]).take v.saved) T := by
    rw [List.take_append_of_le_length h.le]; exact h.saved
  unfold View.publish
  rcases h.live with hl | ⟨hl, hd⟩
  · rw [hl]; exact ⟨hle, htk, Or.inl rfl⟩
  · have hlog : typed (v.log ++ [(ty, r)]) T = v.delivered ++ if ty == T then [r] else [] := by
      rw [typed_append, typed_single, hd]
    rw [hl, List.filter_cons, List.filter_nil]
    by_cases hT : T = ty
    · -- the live copy is handed the record and saves the new end of the log
      subst hT
      rw [BEq.rfl, if_pos rfl] at hlog
      rw [if_pos BEq.rfl]
      refine ⟨by simp [View.handle], ?_, Or.inr ⟨rfl, hlog.symm⟩⟩
      show v.delivered ++ [r] = typed ((v.log ++ [(T, r)]).take (v.log.length + 1)) T
      rw [List.take_of_length_le (by simp)]
      exact hlog.symm
    · rw [beq_eq_false_iff_ne.2 (Ne.symm hT), if_neg Bool.false_ne_true, List.append_nil] at hlog
      rw [if_neg (by simpa using hT)]
      exact ⟨hle, htk, Or.inr ⟨rfl, hlog.symm⟩⟩

/-- handing over the events of type `T` among `l`, which follow `pre` in the log, to a view that is not live and
has those of `pre`: it ends up with all of them, saved where the last one stands, and is then registered -/
theorem EV_replay (T id : Nat) : ∀ (l pre : List (Nat × Nat)) (v : View), v.log = pre ++ l → v.live = [] →
    v.saved ≤ pre.length → v.delivered = typed (v.log.take v.saved) T → v.delivered = typed pre T →
    let w := ((evsFrom pre.length l).filter (fun e => e.2.1 == T)).foldl (fun w e => w.handle e.2.2 e.1) v
    EV T id { w with live := w.live ++ [(id, T)] } := by
  intro l
  induction l with
  | nil =>
    intro pre v hlog hl hs h1 h2
    rw [List.append_nil] at hlog
    exact ⟨hlog ▸ hs, h1, Or.inr ⟨show v.live ++ [(id, T)] = _ by rw [hl]; rfl, hlog ▸ h2⟩⟩
  | cons e l ih =>
    intro pre v hlog hl hs h1 h2
    have hlog' : v.log = (pre ++ [e]) ++ l := by rw [hlog]; simp
    have hlen : (pre ++ [e]).length = pre.length + 1 := by simp
    have ht : typed (pre ++ [e]) T = typed pre T ++ if e.1 == T then [e.2] else [] := by
      rw [typed_append, typed_single]
    rw [evsFrom, List.filter_cons, ← hlen]
    cases hty : e.1 == T
    · rw [hty, if_neg Bool.false_ne_true, List.append_nil] at ht
      rw [if_neg Bool.false_ne_true]
      exact ih (pre ++ [e]) v hlog' hl (by omega) h1 (h2.trans ht.symm)
    · rw [hty, if_pos rfl] at ht
      rw [if_pos rfl, List.foldl_cons]
      have hd : (v.handle e.2 (pre ++ [e]).length).delivered = typed (pre ++ [e]) T := by
        rw [ht, ← h2]; rfl
      exact ih (pre ++ [e]) (v.handle e.2 (pre ++ [e]).length) hlog' hl (Nat.le_refl _)
        (by rw [hd]; show _ = typed (v.log.take (pre ++ [e]).length) T; rw [hlog', List.take_left' rfl]) hd

theorem EV_subscribe {T id : Nat} {v : View} (h : EV T id v) (hl : v.live = []) : EV T id (v.subscribe id T) := by
  have hlen : (v.log.take v.saved).length = v.saved := by rw [List.length_take]; exact Nat.min_eq_left h.le
  have := EV_replay T id (v.log.drop v.saved) (v.log.take v.saved) v (List.take_append_drop _ _).symm hl
    (Nat.le_of_eq hlen.symm) h.saved h.saved
  rwa [hlen, ← eventsAfter_eq] at this

theorem EV_run (tyOf : Nat → Nat) (id : Nat) : ∀ (ops : List ROp) (s : RS), wellFormedFrom {} tyOf s ops = true →
    s.dead = false ∧ EV (tyOf id) id (view s id) →
    (ops.foldl (stepOp {}) s).dead = false ∧ EV (tyOf id) id (view (ops.foldl (stepOp {}) s) id) :=
  run_ind wellFormedFrom_cons fun {s op} hop ⟨hd, h⟩ => by
    obtain ⟨a, b⟩ := view_stepOp hd id fun id' ty pd ho => (hop id' ty pd ho).2.2
    refine ⟨a, b ▸ ?_⟩
    cases op with
    | publish ty r => exact EV_publish h ty r
    | subscribe id' ty pd =>
      obtain ⟨hty, hnl, _⟩ := hop id' ty pd rfl
      show EV _ _ (if id' == id then (view s id).subscribe id ty else view s id)
      split
      · rename_i hid
        rw [beq_iff_eq] at hid
        subst hid
        rw [hty]
        exact EV_subscribe h hnl
      · exact h
    | restart => exact ⟨h.le, h.saved, Or.inl rfl⟩

end Aux
end Ebu.Resume
