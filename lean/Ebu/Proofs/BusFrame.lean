import Ebu.Proofs.BusEff
/-!
Frame properties of the bus machine and the structure of one publish (C01 second half, C04 sequential part,
C05, C08): what a call leaves alone (`Fr`, by induction on `Eff`), the registry invariant with the once-handlers
claimed by publishes in progress (`Outstanding`; a claim breaks it until the publish retires what it claimed, which is
why `Eff` lists the claims a stretch leaves open: `Eff.outstanding`), and what one turn of the dispatch loop, the loop and a
publish append.
-/
namespace Ebu.Bus

namespace BF

attribute [local simp] emit_nextRid emitIf_nextRid emit_executed emitIf_executed emit_cancelled emitIf_cancelled
  emit_nextCtx emitIf_nextCtx emit_pending emitIf_pending emit_panicking emitIf_panicking emit_rtrace emit_live
  emitIf_live trace_mk rtrace_reverse emitIf_trace persist_nextRid persist_executed persist_cancelled
  persist_nextCtx persist_pending persist_panicking persist_live

def isExit : Ev → Bool
  | .exit .. => true
  | _ => false

/-- events that `directEnters`, `isHookAt` and `isPanichAt` pass over (`plain_noenter`, `plain_nohook`,
`plain_nopanich`).  Beside it stand `simple` (BusEff: what `Eff.emit` may append), `Obs.notObs` (passed over by the
span stack) and `Otel.neutral` (in none of the counting equalities) -/
def plain : Ev → Bool
  | .enter .. => false
  | .exit .. => false
  | .hook .. => false
  | .panich .. => false
  | _ => true

/-- what a call at depth `d` may append: tagged `≥ d`; enter/exit tagged `≥ d+1` -/
def TagOK (d : Nat) (e : Ev) : Prop :=
  d ≤ e.depth ∧ ((isEnter e = true ∨ isExit e = true) → d + 1 ≤ e.depth)

theorem TagOK.mono {d d' : Nat} {e : Ev} (h : d ≤ d') (ht : TagOK d' e) : TagOK d e :=
  ⟨by have := ht.1; omega, fun hh => by have := ht.2 hh; omega⟩

theorem TagOK.of_plain {d : Nat} {e : Ev} (hd : d ≤ e.depth) (hp : plain e = true) : TagOK d e := by
  refine ⟨hd, ?_⟩
  cases e <;> simp_all [plain, isEnter, isExit]

theorem persistEvs_plain (cfg : Config) (d ty v : Nat) (bad : Bool) (obsParent : Nat) (c : Core) :
    ∀ e ∈ persistEvs cfg d ty v bad obsParent c, e.depth = d ∧ plain e = true := by
  unfold persistEvs
  split
  · exact List.forall_mem_nil _
  · split
    · exact all_ite _ _ ⟨rfl, rfl⟩
    · exact all_append (all_append (all_append (all_ite _ _ ⟨rfl, rfl⟩) (all_single _ ⟨rfl, rfl⟩))
        (all_ite _ _ ⟨rfl, rfl⟩)) (all_ite _ _ ⟨rfl, rfl⟩)

theorem filtEv_plain (d v : Nat) (r : Reg) : ∀ e ∈ filtEv d v r, e.depth = d ∧ plain e = true := by
  unfold filtEv
  split
  · exact all_single _ ⟨rfl, rfl⟩
  · exact List.forall_mem_nil _

theorem plain_all_tag {d : Nat} {l : List Ev} (h : ∀ e ∈ l, e.depth = d ∧ plain e = true) : ∀ e ∈ l, TagOK d e :=
  fun e he => TagOK.of_plain (Nat.le_of_eq (h e he).1.symm) (h e he).2

theorem simple_tag {d : Nat} {e : Ev} (hd : e.depth = d) (h : simple e = true) : TagOK d e := by
  refine ⟨Nat.le_of_eq hd.symm, ?_⟩
  cases e <;> first | (intro h'; simp [isEnter, isExit] at h'; done) | cases h

theorem obs_tag (d : Nat) (k : ObsKind) (i p ty : Nat) (f : Bool) : TagOK d (.obs d k i p ty f) :=
  .of_plain (Nat.le_refl _) rfl

section rel
variable {R : Type}

/-- registration identities are unique across event types -/
def WFG (I : RegImpl R) (s : St R) : Prop :=
  ∀ t t', ∀ r ∈ I.get s.reg t, ∀ r' ∈ I.get s.reg t', r.rid = r'.rid → t = t'

/-- every registered once-handler that has fired is one of `C` (claimed by a publish in progress) -/
def Outstanding (I : RegImpl R) (s : St R) (C : List Nat) : Prop :=
  (∀ t, ∀ r ∈ I.get s.reg t, r.once = true → r.rid ∈ s.c.executed → r.rid ∈ C) ∧
  ∀ x ∈ s.c.executed, x < s.c.nextRid

/-- what a call leaves alone in the registry and the counters.  `nr`: `nextRid` only grows; `stab`: a registration
that was not there before has an identity from the old `nextRid` on -/
structure Fr (I : RegImpl R) (s s' : St R) : Prop where
  ex : ∀ x ∈ s.c.executed, x ∈ s'.c.executed
  inv0 : Inv0 s.c → Inv0 s'.c
  nr : s.c.nextRid ≤ s'.c.nextRid
  stab : I.Lawful → ∀ t, ∀ r ∈ I.get s'.reg t, r ∈ I.get s.reg t ∨ s.c.nextRid ≤ r.rid
  wf : I.Lawful → WF I s → WF I s'
  wfg : I.Lawful → WF I s → WFG I s → WFG I s'

variable {I : RegImpl R} {d : Nat} {s s' s'' : St R}

theorem trace_nil (s : St R) : ∃ l, s.c.trace = s.c.trace ++ l ∧ ∀ e ∈ l, TagOK d e := ⟨[], by simp, by simp⟩

theorem Fr.refl : Fr I s s where
  ex := fun _ h => h
  inv0 := id
  nr := Nat.le_refl _
  stab := fun _ _ _ h => Or.inl h
  wf := fun _ h => h
  wfg := fun _ _ h => h

theorem Fr.trans (h1 : Fr I s s') (h2 : Fr I s' s'') : Fr I s s'' where
  ex := fun x h => h2.ex x (h1.ex x h)
  inv0 := fun h => h2.inv0 (h1.inv0 h)
  nr := Nat.le_trans h1.nr h2.nr
  stab := fun hI t r hr => (h2.stab hI t r hr).elim (h1.stab hI t r) fun h => Or.inr (Nat.le_trans h1.nr h)
  wf := fun hI h => h2.wf hI (h1.wf hI h)
  wfg := fun hI h hg => h2.wfg hI (h1.wf hI h) (h1.wfg hI h hg)

/-- a step that only emits events (or cancels a context other than the background one) changes nothing of what
`Fr`, `WF`, `WFG` and `Outstanding` read, and neither parks nor takes an invocation (`pending`, for `Eff.pending`) -/
structure Same (s s' : St R) : Prop where
  reg : s'.reg = s.reg
  nextRid : s'.c.nextRid = s.c.nextRid
  executed : s'.c.executed = s.c.executed
  pending : s'.c.pending = s.c.pending
  inv0 : Inv0 s.c → Inv0 s'.c

theorem Same.refl : Same s s := ⟨rfl, rfl, rfl, rfl, id⟩

theorem Same.trans (h : Same s s') (h' : Same s' s'') : Same s s'' :=
  ⟨h'.reg.trans h.reg, h'.nextRid.trans h.nextRid, h'.executed.trans h.executed, h'.pending.trans h.pending,
    fun hi => h'.inv0 (h.inv0 hi)⟩

theorem WF_of_sub (hsub : ∀ t, (I.get s'.reg t).Sublist (I.get s.reg t)) (hnr : s.c.nextRid ≤ s'.c.nextRid)
    (h : WF I s) : WF I s' := by
  intro t
  refine ⟨((hsub t).map _).nodup (h t).1, fun r hr => ?_⟩
  have := (h t).2 r ((hsub t).mem hr)
  exact ⟨by omega, this.2⟩

theorem WFG_of_sub (hsub : ∀ t, (I.get s'.reg t).Sublist (I.get s.reg t)) (h : WFG I s) : WFG I s' :=
  fun t t' r hr r' hr' he => h t t' r ((hsub t).mem hr) r' ((hsub t').mem hr') he

theorem Fr.core (c' : Core) (hex : ∀ x ∈ s.c.executed, x ∈ c'.executed) (hinv : Inv0 s.c → Inv0 c')
    (hnr : c'.nextRid = s.c.nextRid) : Fr I s { s with c := c' } where
  ex := hex
  inv0 := hinv
  nr := Nat.le_of_eq hnr.symm
  stab := fun _ _ _ h => Or.inl h
  wf := fun _ h t => ⟨(h t).1, fun r hr => ⟨Nat.lt_of_lt_of_eq ((h t).2 r hr).1 hnr.symm, ((h t).2 r hr).2⟩⟩
  wfg := fun _ _ h => h

theorem Same.fr (h : Same s s') : Fr I s s' := by
  obtain ⟨reg, c⟩ := s; obtain ⟨reg', c'⟩ := s'
  obtain ⟨hr, hn, he, -, hi⟩ := h
  simp only at hr hn he
  subst hr
  exact .core c' (fun _ hx => he ▸ hx) hi hn

theorem Fr.of_sub {reg' : R} (hsub : I.Lawful → ∀ t, (I.get reg' t).Sublist (I.get s.reg t)) :
    Fr I s { s with reg := reg' } where
  ex := fun _ h => h
  inv0 := id
  nr := Nat.le_refl _
  stab := fun hI t _ hr => Or.inl ((hsub hI t).mem hr)
  wf := fun hI h => WF_of_sub (hsub hI) (Nat.le_refl _) h
  wfg := fun hI _ h => WFG_of_sub (hsub hI) h

end rel

theorem panichEvs_all {P : Ev → Prop} (cfg : Config) (r : Reg) (ty v d : Nat) (pv : Option Nat)
    (h : ∀ val, P (.panich d r.ctxAware ty v val)) : ∀ e ∈ panichEvs cfg r ty v d pv, P e := by
  unfold panichEvs
  split
  · exact all_ite _ _ (h _)
  · exact List.forall_mem_nil _

theorem invEvs_all {P : Ev → Prop} (cfg : Config) (r : Reg) (ty v root op d : Nat) (async : Bool) (sp : Nat)
    (body : List Ev) (pv : Option Nat) (hobs : ∀ k p f, P (.obs d k sp p ty f))
    (he : P (.enter (d + 1) r.rid ty v (if r.ctxAware then some root else none) async)) (hb : ∀ e ∈ body, P e)
    (hx : P (.exit (d + 1) r.rid)) (hp : ∀ e ∈ panichEvs cfg r ty v d pv, P e) :
    ∀ e ∈ invEvs cfg r ty v root op d async sp body pv, P e :=
  all_append (all_append (all_ite _ _ (hobs ..)) (all_append (l1 := _ :: _)
    (List.forall_mem_cons.2 ⟨he, hb⟩) (List.forall_mem_cons.2 ⟨hx, hp⟩))) (all_ite _ _ (hobs ..))

section same
variable {R : Type} {I : RegImpl R} {cfg : Config} {rec : Frame → St R → Action → St R}

theorem openSpan_same (d : Nat) (k : ObsKind) (p ty : Nat) (f : Bool) (s : St R) :
    Same s (openSpan cfg d k p ty f s) := by
  rw [openSpan_eq]; constructor <;> simp [Inv0]

theorem closeSpan_same (d : Nat) (k : ObsKind) (id ty : Nat) (f : Bool) (s : St R) :
    Same s (closeSpan cfg d k id ty f s) := by
  constructor <;> simp [closeSpan, Inv0]

theorem chPost_same (r : Reg) (ty v d sp : Nat) (s : St R) : Same s (chPost cfg r ty v d sp s) := by
  refine .trans ?_ (closeSpan_same ..)
  rw [chMid_eq]; exact ⟨rfl, rfl, rfl, rfl, id⟩

theorem entered_same (r : Reg) (ty v root d : Nat) (async : Bool) (s : St R) :
    Same s (entered r ty v root d async s) := ⟨rfl, rfl, rfl, rfl, id⟩

theorem chPost_panicking (r : Reg) (ty v d sp : Nat) (s : St R) : (chPost cfg r ty v d sp s).c.panicking = none := by
  show (emitIf _ _ _).panicking = none
  rw [emitIf_panicking, chMid_eq]

theorem pubBefore_same (d ty v : Nat) (bad : Bool) (obs : Nat) (s : St R) :
    Same s (pubBefore cfg d ty v bad obs s) := by
  constructor <;> simp [pubBefore, Inv0]

theorem dFilt_same (d v root : Nat) (r : Reg) (s : St R) : Same s (dFilt d v root r s) := by
  rw [dFilt_eq]
  refine ⟨rfl, rfl, rfl, rfl, fun h => ⟨?_, h.2⟩⟩
  show 0 ∉ if cancelsAt r root then root :: s.c.cancelled else s.c.cancelled
  split
  · rename_i hk
    have hr : root ≠ 0 := fun h0 => by rw [h0] at hk; simp at hk
    exact fun h0 => (List.mem_cons.1 h0).elim (fun e => hr e.symm) h.1
  · exact h.1

theorem pubCtx_same (fr : Frame) (sel : CtxSel) (s : St R) : Same s (pubCtx fr sel s).2.2 :=
  ⟨(pubCtx_silent fr sel s).1, (pubCtx_silent fr sel s).2.nextRid, by
    obtain ⟨d, root, obs, ca⟩ := fr
    cases sel <;> cases ca <;> rfl, by
    obtain ⟨d, root, obs, ca⟩ := fr
    cases sel <;> cases ca <;> rfl, (pubCtx_silent fr sel s).2.inv0⟩

end same

section eff
variable {R : Type} {I : RegImpl R} {cfg : Config} {d : Nat} {par : Option Nat} {s s' : St R} {cl : List Reg}

theorem subscribe_mem (hI : I.Lawful) (s : St R) (rn : Reg) (ty t : Nat) (r : Reg)
    (hr : r ∈ I.get (I.set s.reg ty (I.get s.reg ty ++ [rn])) t) : r ∈ I.get s.reg t ∨ (r = rn ∧ t = ty) := by
  rw [hI.get_set] at hr
  split at hr
  · rename_i h
    subst h
    exact (List.mem_append.1 hr).imp_right fun h => ⟨List.mem_singleton.1 h, rfl⟩
  · exact Or.inl hr

theorem subscribe_fr (s : St R) (rn : Reg) (ty : Nat) (hrid : rn.rid = s.c.nextRid) (hty : rn.ty = ty) :
    Fr I s { reg := I.set s.reg ty (I.get s.reg ty ++ [rn]), c := { s.c with nextRid := s.c.nextRid + 1 } } := by
  refine ⟨fun x h => h, id, Nat.le_succ _, ?_, ?_, ?_⟩
  · intro hI t r hr
    exact (subscribe_mem hI s rn ty t r hr).imp_right fun h => by rw [h.1, hrid]; exact Nat.le_refl _
  · intro hI hwf t
    refine ⟨?_, fun r hr => ?_⟩
    · show (List.map (·.rid) (I.get (I.set s.reg ty (I.get s.reg ty ++ [rn])) t)).Nodup
      rw [hI.get_set]
      split
      · rename_i h
        subst h
        rw [List.map_append, List.nodup_append]
        refine ⟨(hwf t).1, by simp, fun a ha b hb => ?_⟩
        obtain ⟨r, hr, rfl⟩ := List.mem_map.1 ha
        have := ((hwf t).2 r hr).1
        simp at hb
        omega
      · exact (hwf t).1
    · rcases subscribe_mem hI s rn ty t r hr with h | ⟨h, h'⟩
      · exact ⟨Nat.lt_succ_of_lt ((hwf t).2 r h).1, ((hwf t).2 r h).2⟩
      · subst h; subst h'
        exact ⟨by show r.rid < s.c.nextRid + 1; omega, hty⟩
  · intro hI hwf hg t t' r hr r' hr' heq
    rcases subscribe_mem hI s rn ty t r hr with h | ⟨h, h2⟩ <;>
      rcases subscribe_mem hI s rn ty t' r' hr' with h' | ⟨h', h2'⟩
    · exact hg t t' r h r' h' heq
    · have := ((hwf t).2 r h).1
      subst h'
      omega
    · have := ((hwf t').2 r' h').1
      subst h
      omega
    · rw [h2, h2']

theorem _root_.Ebu.Bus.Eff.fr (h : Eff I cfg d par s s' cl) : Fr I s s' := by
  induction h with
  | refl => exact .refl
  | trans _ _ ih₁ ih₂ => exact ih₁.trans ih₂
  | emit => exact .core _ (fun _ h => h) id rfl
  | silent c' hs => exact .core c' (fun _ h => hs.executed ▸ h) hs.inv0 hs.nextRid
  | subscribe rn ty h1 h2 => exact subscribe_fr _ rn ty h1 h2
  | shrink reg' hsub => exact .of_sub hsub
  | persist => exact .core _ (fun _ h => by rwa [persist_executed]) (by simp [Inv0]) (persist_nextRid ..)
  | call _ _ _ _ _ _ _ _ _ ih =>
    exact (((openSpan_same ..).trans (entered_same ..)).fr.trans ih).trans (chPost_same ..).fr
  | publish _ _ _ ih => exact ((openSpan_same ..).fr.trans ih).trans (closeSpan_same ..).fr
  | pop => exact .core _ (fun _ h => h) id rfl
  | claim r => exact .core _ (fun _ h => List.mem_cons_of_mem _ h) id rfl
  | retire ty _ _ ih => exact ih.trans (.of_sub fun hI => get_set_sublist hI (retire_sublist _ _))

/-- the trace only grows, and what a call at depth `d` appends is tagged for `d` -/
theorem _root_.Ebu.Bus.Eff.tags (h : Eff I cfg d par s s' cl) : ∃ l, s'.c.trace = s.c.trace ++ l ∧ ∀ e ∈ l, TagOK d e := by
  induction h with
  | trans _ _ ih₁ ih₂ =>
    obtain ⟨l1, e1, t1⟩ := ih₁
    obtain ⟨l2, e2, t2⟩ := ih₂
    exact ⟨l1 ++ l2, by rw [e2, e1, List.append_assoc], all_append t1 t2⟩
  | emit e hd he => exact ⟨[e], Core.trace_emit _ e, all_single _ (simple_tag hd he)⟩
  | silent c' hs => exact ⟨[], by rw [List.append_nil]; exact hs.trace, List.forall_mem_nil _⟩
  | @persist d par s ty v bad op => exact ⟨_, persist_trace .., plain_all_tag (persistEvs_plain cfg d ty v bad op s.c)⟩
  | @call d d' par s s' r ty v root op async hd _ _ ih =>
    obtain ⟨l, e, t⟩ := ih
    have hx : ∀ {e : Ev}, e.depth = d' + 1 → TagOK d' e := fun h => ⟨h ▸ Nat.le_succ _, fun _ => Nat.le_of_eq h.symm⟩
    exact ⟨_, chPost_invEvs e, fun x h => (invEvs_all _ _ _ _ _ _ _ _ _ _ _ (fun _ _ _ => obs_tag ..) (hx rfl)
      (fun x h => (t x h).mono (Nat.le_succ _)) (hx rfl)
      (panichEvs_all _ _ _ _ _ _ fun _ => ⟨Nat.le_refl _, fun h => h.elim nofun nofun⟩) x h).mono hd⟩
  | publish ty p _ ih =>
    obtain ⟨l, e, t⟩ := ih
    exact ⟨_, by rw [show (closeSpan ..).c.trace = _ from emitIf_trace .., e, openSpan_trace, List.append_assoc,
      List.append_assoc], all_append (all_ite _ _ (obs_tag ..)) (all_append t (all_ite _ _ (obs_tag ..)))⟩
  | retire _ _ _ ih => exact ih
  | _ => exact trace_nil _

/-- `hb`: inside a handler or a publish; there nothing is taken from `pending` -/
theorem _root_.Ebu.Bus.Eff.pending (h : Eff I cfg d par s s' cl) (hb : 0 < d ∨ par.isSome) :
    ∃ p, s'.c.pending = s.c.pending ++ p ∧ ∀ q ∈ p, d ≤ q.depth := by
  induction h with
  | refl => exact ⟨[], (List.append_nil _).symm, List.forall_mem_nil _⟩
  | trans _ _ ih₁ ih₂ =>
    obtain ⟨p1, e1, t1⟩ := ih₁ hb
    obtain ⟨p2, e2, t2⟩ := ih₂ hb
    exact ⟨p1 ++ p2, by rw [e2, e1, List.append_assoc], all_append t1 t2⟩
  | silent c' hs => exact hs.pending
  | persist => exact ⟨[], by rw [List.append_nil]; exact persist_pending .., List.forall_mem_nil _⟩
  | @call d d' par s s' r ty v root op async hd _ _ ih =>
    obtain ⟨p, e, t⟩ := ih (Or.inl (Nat.succ_pos _))
    exact ⟨p, by rw [(chPost_same ..).pending, e,
      ((openSpan_same (cfg := cfg) d' .hs op ty async s).trans (entered_same r ty v root d' async _)).pending],
      fun q hq => Nat.le_trans hd (Nat.le_of_succ_le (t q hq))⟩
  | publish ty p _ ih =>
    obtain ⟨p, e, t⟩ := ih (Or.inr rfl)
    exact ⟨p, ((closeSpan_same ..).pending.trans e).trans (congrArg (· ++ p) (openSpan_same ..).pending), t⟩
  | pop => exact hb.elim (fun h => absurd h (Nat.lt_irrefl 0)) nofun
  | retire _ _ _ ih => exact ih hb
  | _ => exact ⟨[], (List.append_nil _).symm, List.forall_mem_nil _⟩

theorem _root_.Ebu.Bus.Eff.nopanic (h : Eff I cfg d par s s' cl) :
    d = 0 → s.c.panicking = none → s'.c.panicking = none := by
  induction h with
  | trans _ _ ih₁ ih₂ => exact fun hd h => ih₂ hd (ih₁ hd h)
  | silent c' hs => exact fun hd h => (hs.panicking hd).trans h
  | persist => exact fun _ h => (persist_panicking ..).trans h
  | call => exact fun _ _ => chPost_panicking ..
  | publish _ _ _ ih =>
    exact fun hd h => (emitIf_panicking ..).trans (ih hd (by rw [openSpan_eq]; exact (emitIf_panicking ..).trans h))
  | retire _ _ _ ih => exact ih
  | _ => exact fun _ h => h

end eff

theorem eraseFirst_nodup (x : Nat) (l : List Reg) (hn : (l.map (·.rid)).Nodup) :
    ∀ r ∈ eraseFirst (fun h => h.rid == x) l, r.rid ≠ x := by
  induction l with
  | nil => simp [eraseFirst]
  | cons a as ih =>
    simp only [List.map_cons, List.nodup_cons] at hn
    simp only [eraseFirst]
    split
    · rename_i hax
      have hax : a.rid = x := by simpa using hax
      intro r hr heq
      exact hn.1 (List.mem_map.2 ⟨r, hr, by rw [heq, hax]⟩)
    · rename_i hax
      intro r hr
      rcases List.mem_cons.1 hr with h | h
      · subst h; simpa using hax
      · exact ih hn.2 r h

theorem retire_not_mem (claimed hs : List Reg) (hn : (hs.map (·.rid)).Nodup) (c : Reg) (hc : c ∈ claimed) :
    ∀ r ∈ retire claimed hs, r.rid ≠ c.rid := by
  induction claimed generalizing hs with
  | nil => simp at hc
  | cons a as ih =>
    simp only [retire, List.foldl_cons]
    have hsub := eraseFirst_sublist (fun h => h.rid == a.rid) hs
    have hn' := (hsub.map (·.rid)).nodup hn
    rcases List.mem_cons.1 hc with h | h
    · subst h
      intro r hr
      exact eraseFirst_nodup c.rid hs hn r ((retire_sublist as _).mem hr)
    · exact ih _ hn' h

section inv
variable {R : Type} {I : RegImpl R} {cfg : Config} {d : Nat} {par : Option Nat} {s s' : St R} {cl : List Reg} {C : List Nat}

theorem Outstanding.of_eq (h : Outstanding I s C) (hr : s'.reg = s.reg) (hn : s'.c.nextRid = s.c.nextRid)
    (he : s'.c.executed = s.c.executed) : Outstanding I s' C := by
  obtain ⟨r', c'⟩ := s'
  simp only at hr hn he
  subst hr
  simpa only [Outstanding, hn, he] using h

theorem Same.outstanding (h : Same s s') (hq : Outstanding I s C) : Outstanding I s' C :=
  hq.of_eq h.reg h.nextRid h.executed

/-- `retire` edits the list of the published type only, so a claimed identity must not sit under another type (`hst`) -/
theorem retire_outstanding (hI : I.Lawful) (ty : Nat) (hwf : WF I s)
    (hst : ∀ c ∈ cl, ∀ t, ∀ r ∈ I.get s.reg t, r.rid = c.rid → t = ty)
    (h : Outstanding I s (C ++ cl.map (·.rid))) :
    Outstanding I { s with reg := I.set s.reg ty (retire cl (I.get s.reg ty)) } C := by
  refine ⟨fun t r hr ho he => ?_, h.2⟩
  have hr1 : r ∈ I.get s.reg t := (get_set_sublist hI (retire_sublist _ _) t).mem hr
  rcases List.mem_append.1 (h.1 t r hr1 ho he) with hc | hc
  · exact hc
  · exfalso
    obtain ⟨c, hc, hcr⟩ := List.mem_map.1 hc
    have ht := hst c hc t r hr1 hcr.symm
    subst ht
    simp only [hI.get_set, if_true] at hr
    exact retire_not_mem cl _ (hwf t).1 c hc r hr hcr.symm

/-- the registry invariant along any effect: whatever was claimed and not retired joins the outstanding claims `C`.
`WF` and `WFG` of the states in between come with `Fr`; they are needed where a publish retires its claims
(`hst` of `retire_outstanding`, from `Fr.stab` and `WFG`) -/
theorem _root_.Ebu.Bus.Eff.outstanding (h : Eff I cfg d par s s' cl) (hI : I.Lawful) : WF I s → WFG I s →
    ∀ C, Outstanding I s C → (∀ c ∈ cl, c.rid < s.c.nextRid) → Outstanding I s' (C ++ cl.map (·.rid)) := by
  have noClaims : ∀ {s' : St R} {C : List Nat},
      Outstanding I s' C ↔ Outstanding I s' (C ++ ([] : List Reg).map (·.rid)) := by
    intro s' C; rw [List.map_nil, List.append_nil]
  induction h with
  | refl => exact fun _ _ _ hq _ => noClaims.1 hq
  | trans h₁ _ ih₁ ih₂ =>
    intro hw hg C hq hlt
    rw [List.map_append, ← List.append_assoc]
    exact ih₂ (h₁.fr.wf hI hw) (h₁.fr.wfg hI hw hg) _ (ih₁ hw hg C hq fun c hc => hlt c (List.mem_append_left _ hc))
      fun c hc => Nat.lt_of_lt_of_le (hlt c (List.mem_append_right _ hc)) h₁.fr.nr
  | emit => exact fun _ _ _ hq _ => noClaims.1 (hq.of_eq rfl rfl rfl)
  | silent c' hs => exact fun _ _ _ hq _ => noClaims.1 (hq.of_eq rfl hs.nextRid hs.executed)
  | subscribe rn ty h1 _ =>
    intro _ _ C hq _
    refine noClaims.1 ⟨fun t r hr ho he => ?_, fun x hx => Nat.lt_succ_of_lt (hq.2 x hx)⟩
    rcases subscribe_mem hI _ rn ty t r hr with h' | ⟨h', _⟩
    · exact hq.1 t r h' ho he
    · exact absurd (hq.2 _ he) (by rw [h', h1]; exact Nat.lt_irrefl _)
  | shrink reg' hsub => exact fun _ _ _ hq _ => noClaims.1 ⟨fun t r hr => hq.1 t r ((hsub hI t).mem hr), hq.2⟩
  | persist => exact fun _ _ _ hq _ => noClaims.1 (hq.of_eq rfl (persist_nextRid ..) (persist_executed ..))
  | @call d d' par s s' r ty v root op async _ _ _ ih =>
    intro hw hg C hq _
    have hS := (openSpan_same (cfg := cfg) d' .hs op ty async s).trans (entered_same r ty v root d' async _)
    exact noClaims.1 ((chPost_same ..).outstanding (noClaims.2
      (ih (hS.fr.wf hI hw) (hS.fr.wfg hI hw hg) C (hS.outstanding hq) (List.forall_mem_nil _))))
  | @publish d s s' ty p _ ih =>
    intro hw hg C hq _
    have hS := openSpan_same (cfg := cfg) d .ps p ty false s
    exact noClaims.1 ((closeSpan_same ..).outstanding (noClaims.2
      (ih (hS.fr.wf hI hw) (hS.fr.wfg hI hw hg) C (hS.outstanding hq) (List.forall_mem_nil _))))
  | pop => exact fun _ _ _ hq _ => noClaims.1 (hq.of_eq rfl rfl rfl)
  | claim r =>
    intro _ _ C hq hlt
    refine ⟨fun t r' hr' ho he => ?_, fun x hx => ?_⟩
    · rcases List.mem_cons.1 he with e | he
      · exact List.mem_append_right _ (List.mem_map.2 ⟨r, List.mem_singleton_self r, e.symm⟩)
      · exact List.mem_append_left _ (hq.1 t r' hr' ho he)
    · rcases List.mem_cons.1 hx with e | hx
      · exact e ▸ hlt r (List.mem_singleton_self r)
      · exact hq.2 x hx
  | @retire d par s s' cl ty h hm ih =>
    intro hw hg C hq _
    have hlt : ∀ c ∈ cl, c.rid < s.c.nextRid := fun c hc => ((hw ty).2 c (hm c hc)).1
    refine noClaims.1 (retire_outstanding hI ty (h.fr.wf hI hw) (fun c hc t r hr heq => ?_) (ih hw hg C hq hlt))
    rcases h.fr.stab hI t r hr with h' | h'
    · exact hg t ty r h' c (hm c hc) heq
    · have := hlt c hc; omega

theorem initSt_inv (hI : I.Lawful) (faults : List Bool) :
    WF I (initSt I faults) ∧ WFG I (initSt I faults) ∧ Outstanding I (initSt I faults) [] := by
  simp [WF, WFG, Outstanding, initSt, hI.get_empty]

theorem pubSnap_same (fr : Frame) (ty v : Nat) (bad : Bool) (sel : CtxSel) (s : St R) :
    Same s (pubSnap cfg fr ty v bad sel s) :=
  (pubCtx_same fr sel s).trans ((openSpan_same ..).trans (pubBefore_same ..))

theorem pubAfter_reg (d ty v : Nat) (s1 : St R) (claimed : List Reg) :
    (pubAfter I cfg d ty v (s1, claimed)).reg =
      if claimed.isEmpty then s1.reg else I.set s1.reg ty (retire claimed (I.get s1.reg ty)) := by
  simp only [pubAfter]; split <;> rfl

theorem pubAfter_c (d ty v : Nat) (s1 : St R) (claimed : List Reg) :
    (pubAfter I cfg d ty v (s1, claimed)).c =
      emitIf cfg.hookAC (emitIf cfg.hookAL s1.c (.hook d .al ty v)) (.hook d .ac ty v) := by
  simp only [pubAfter]; split <;> rfl

end inv

section proj
variable {R : Type} {I : RegImpl R} {d d' : Nat} {s s' s'' : St R}

theorem newPending_eq {l : List Pending} (h : s'.c.pending = s.c.pending ++ l) : newPending s s' = l := by
  simp [newPending, h]

theorem newTrace_trans {cfg : Config} {par par' : Option Nat} {cl cl' : List Reg} (h1 : Eff I cfg d par s s' cl)
    (h2 : Eff I cfg d' par' s' s'' cl') : newTrace s s'' = newTrace s s' ++ newTrace s' s'' := by
  obtain ⟨l1, e1, -⟩ := h1.tags
  obtain ⟨l2, e2, -⟩ := h2.tags
  rw [newTrace_eq e1, newTrace_eq e2, newTrace_eq (e2.trans (by rw [e1, List.append_assoc]))]

theorem newPending_trans {p1 p2 : List Pending} (e1 : s'.c.pending = s.c.pending ++ p1)
    (e2 : s''.c.pending = s'.c.pending ++ p2) : newPending s s'' = newPending s s' ++ newPending s' s'' := by
  rw [newPending_eq e1, newPending_eq e2, newPending_eq (e2.trans (by rw [e1, List.append_assoc]))]

theorem plain_noenter {e : Ev} (h : plain e = true) : isEnter e = false := by
  cases e <;> first | rfl | cases h

theorem plain_nohook {e : Ev} (d : Nat) (h : plain e = true) : isHookAt d e = false := by
  cases e <;> first | rfl | cases h

theorem plain_nopanich {e : Ev} (d : Nat) (h : plain e = true) : isPanichAt d e = false := by
  cases e <;> simp_all [plain, isPanichAt]

theorem hook_depth {e : Ev} {d : Nat} (h : isHookAt d e = true) : e.depth = d := by
  cases e <;> simp_all [isHookAt, Ev.depth]

theorem panich_depth {e : Ev} {d : Nat} (h : isPanichAt d e = true) : e.depth = d := by
  cases e <;> simp_all [isPanichAt, Ev.depth]

theorem deeper_nohook {e : Ev} (h : TagOK (d + 1) e) : isHookAt d e = false :=
  Bool.eq_false_iff.2 fun hh => by have := h.1; have := hook_depth hh; omega

theorem deeper_nopanich {e : Ev} (h : TagOK (d + 1) e) : isPanichAt d e = false :=
  Bool.eq_false_iff.2 fun hh => by have := h.1; have := panich_depth hh; omega

theorem filter_nil {p : Ev → Bool} {l : List Ev} (h : ∀ e ∈ l, p e = false) : l.filter p = [] :=
  List.filter_eq_nil_iff.2 fun e he => by rw [h e he]; exact Bool.false_ne_true

theorem directEnters_append (d : Nat) (l1 l2 : List Ev) :
    directEnters d (l1 ++ l2) = directEnters d l1 ++ directEnters d l2 := by
  simp [directEnters, List.filterMap_append]

theorem directEnters_enter (d rid ty v : Nat) (ctx : Option Nat) (a : Bool) (l : List Ev) :
    directEnters d (.enter (d + 1) rid ty v ctx a :: l) = (rid, ty, v, ctx) :: directEnters d l := by
  simp [directEnters]

theorem directEnters_nil {l : List Ev} (h : ∀ e ∈ l, isEnter e = true → e.depth ≠ d + 1) : directEnters d l = [] := by
  unfold directEnters
  rw [List.filterMap_eq_nil_iff]
  intro e he
  cases e with
  | enter d' rid ty v ctx a => exact if_neg (h _ he rfl)
  | _ => rfl

theorem directEnters_noenter {l : List Ev} (h : ∀ e ∈ l, isEnter e = false) : directEnters d l = [] :=
  directEnters_nil fun e he h' => by rw [h e he] at h'; cases h'

theorem directEnters_deeper {l : List Ev} (h : ∀ e ∈ l, TagOK (d + 1) e) : directEnters d l = [] :=
  directEnters_nil fun e he h' => Nat.ne_of_gt ((h e he).2 (Or.inl h'))

theorem all_noenter_plain {l : List Ev} (h : ∀ e ∈ l, e.depth = d ∧ plain e = true) :
    ∀ e ∈ l, isEnter e = false := fun e he => plain_noenter (h e he).2

end proj

section invoc
variable {cfg : Config} {r : Reg} {ty v root op d : Nat} {async : Bool} {sp : Nat} {body : List Ev} {pv : Option Nat}

theorem invEvs_hook (hb : ∀ e ∈ body, TagOK (d + 1) e) :
    (invEvs cfg r ty v root op d async sp body pv).filter (isHookAt d) = [] :=
  filter_nil (invEvs_all _ _ _ _ _ _ _ _ _ _ _ (fun _ _ _ => rfl) rfl (fun e he => deeper_nohook (hb e he)) rfl
    (panichEvs_all _ _ _ _ _ _ fun _ => rfl))

theorem invEvs_direct (hb : ∀ e ∈ body, TagOK (d + 1) e) :
    directEnters d (invEvs cfg r ty v root op d async sp body pv) =
      [(r.rid, ty, v, if r.ctxAware then some root else none)] := by
  unfold invEvs
  rw [directEnters_append, directEnters_append, List.cons_append, directEnters_noenter (all_ite _ _ rfl),
    directEnters_noenter (all_ite _ _ rfl)]
  rw [directEnters_enter, directEnters_append, directEnters_deeper hb, directEnters_noenter (l := _ :: _)
    (List.forall_mem_cons.2 ⟨rfl, panichEvs_all _ _ _ _ _ _ fun _ => rfl⟩)]
  rfl

theorem invEvs_panich (hb : ∀ e ∈ body, TagOK (d + 1) e) :
    (invEvs cfg r ty v root op d async sp body pv).filter (isPanichAt d) = panichEvs cfg r ty v d pv := by
  unfold invEvs
  rw [List.filter_append, List.filter_append, filter_nil (all_ite _ _ rfl), filter_nil (all_ite _ _ rfl),
    List.cons_append, List.filter_cons_of_neg (by exact Bool.false_ne_true), List.filter_append,
    filter_nil fun e he => deeper_nopanich (hb e he), List.filter_cons_of_neg (by exact Bool.false_ne_true),
    List.filter_eq_self.2 (panichEvs_all _ _ _ _ _ _ fun _ => by simp [isPanichAt])]
  simp

end invoc

section struct
variable {R : Type} {I : RegImpl R} {cfg : Config} {rec : Frame → St R → Action → St R}

theorem callHandler_invEvs (hE : RecEff I cfg rec) (r : Reg) (ty v root op d : Nat) (async : Bool) (s : St R) :
    ∃ body, (∀ e ∈ body, TagOK (d + 1) e) ∧ (callHandler cfg rec r ty v root op d async s).c.trace = s.c.trace ++
      invEvs cfg r ty v root op d async s.c.nextObs body (bodyResult cfg rec r ty v root op d async s).c.panicking := by
  obtain ⟨body, hb, ht⟩ := (bodyResult_eff hE r ty v root op d async s).tags
  exact ⟨body, ht, callHandler_trace cfg rec r ty v root op d async s hb⟩

theorem callHandler_pending (hE : RecEff I cfg rec) (r : Reg) (ty v root op d : Nat) (async : Bool) (s : St R) :
    ∃ p, (callHandler cfg rec r ty v root op d async s).c.pending = s.c.pending ++ p ∧ ∀ q ∈ p, d + 1 ≤ q.depth := by
  obtain ⟨p, e, t⟩ := (bodyResult_eff hE r ty v root op d async s).pending (Or.inl (Nat.succ_pos _))
  exact ⟨p, by rw [callHandler_eq, ← bodyResult_eq, (chPost_same ..).pending, e, (entered_same ..).pending,
    (openSpan_same ..).pending], t⟩

theorem dClaim_trace (r : Reg) (s : St R) : (dClaim r s).c.trace = s.c.trace := by rw [dClaim_eq]; rfl

theorem deliver_new_nocall (ty v root obs d : Nat) (s : St R) (cl : List Reg) (r : Reg)
    (h : skips r v root s.c ∨ r.async = true) :
    newTrace s (deliver cfg rec ty v root obs d (s, cl) r).1 = filtEv d v r := by
  rw [deliver_cases]
  by_cases hs : skips r v root s.c
  · rw [if_pos hs]; exact newTrace_eq (dFilt_trace ..)
  · rw [if_neg hs, if_pos (h.resolve_left hs)]; exact newTrace_eq ((dClaim_trace ..).trans (dFilt_trace ..))

theorem deliver_proj (hE : RecEff I cfg rec) (ty v root obs d : Nat) (s : St R) (cl : List Reg) (r : Reg) :
    (newTrace s (deliver cfg rec ty v root obs d (s, cl) r).1).filter (isHookAt d) = [] ∧
    directEnters d (newTrace s (deliver cfg rec ty v root obs d (s, cl) r).1) =
      if ¬ skips r v root s.c ∧ r.async = false then [(r.rid, ty, v, if r.ctxAware then some root else none)]
      else [] := by
  have hf := filtEv_plain d v r
  by_cases h : ¬ skips r v root s.c ∧ r.async = false
  · obtain ⟨body, hb, ht⟩ := callHandler_invEvs hE r ty v root obs d false (dClaim r (dFilt d v root r s))
    rw [deliver_cases, if_neg h.1, if_neg (Bool.eq_false_iff.1 h.2), newTrace_eq (ht.trans (by rw [dClaim_trace, dFilt_trace, List.append_assoc])), if_pos h,
      List.filter_append, directEnters_append, invEvs_hook hb, invEvs_direct hb,
      filter_nil fun e he => plain_nohook d (hf e he).2, directEnters_noenter (all_noenter_plain hf)]
    exact ⟨rfl, rfl⟩
  · rw [deliver_new_nocall _ _ _ _ _ _ _ _ (by cases ha : r.async <;> simp_all), if_neg h]
    exact ⟨filter_nil fun e he => plain_nohook d (hf e he).2, directEnters_noenter (all_noenter_plain hf)⟩

theorem deliver_parked (hE : RecEff I cfg rec) (ty v root obs d : Nat) (s : St R) (cl : List Reg) (r : Reg) :
    ∃ pl, (deliver cfg rec ty v root obs d (s, cl) r).1.c.pending = s.c.pending ++ pl ∧
      pl.filter (·.depth == d) = if ¬ skips r v root s.c ∧ r.async = true then [⟨r, ty, v, root, obs, d⟩] else [] := by
  have hF := (dFilt_same (R := R) d v root r s).pending
  have hC : (dClaim r (dFilt d v root r s)).c.pending = s.c.pending := by rw [dClaim_eq]; exact hF
  rw [deliver_cases]
  by_cases hs : skips r v root s.c
  · rw [if_pos hs, if_neg fun h => h.1 hs]; exact ⟨[], by rw [hF, List.append_nil], rfl⟩
  · by_cases ha : r.async = true
    · rw [if_neg hs, if_pos ha, if_pos ⟨hs, ha⟩]
      exact ⟨[_], by show _ ++ _ = _; rw [hC], by simp⟩
    · obtain ⟨p, e, t⟩ := callHandler_pending hE r ty v root obs d false (dClaim r (dFilt d v root r s))
      rw [if_neg hs, if_neg ha, if_neg fun h => ha h.2]
      exact ⟨p, by rw [e, hC], List.filter_eq_nil_iff.2 fun q hq hd => by
        have := t q hq; have := beq_iff_eq.1 hd; omega⟩

theorem deliver_executed (hE : RecEff I cfg rec) (ty v root obs d : Nat) (s : St R) (cl : List Reg) (r : Reg)
    (hs : ¬ skips r v root s.c) (ho : r.once = true) :
    r.rid ∈ (deliver cfg rec ty v root obs d (s, cl) r).1.c.executed := by
  have hC : r.rid ∈ (dClaim r (dFilt d v root r s)).c.executed := by rw [dClaim_eq, ho]; exact List.mem_cons_self
  rw [deliver_cases, if_neg hs]
  split
  · exact hC
  · exact (callHandler_eff (d := d) (par := none) hE r ty v root obs false _ (Nat.le_refl _) (fun _ _ => nofun)).fr.ex _ hC

theorem sublist_cons_opt {α β : Type} {p : α → Bool} {f : α → β} {c : Prop} [Decidable c] {r : α} {l : List α}
    {L : List β} (hc : c → p r = true) (h : L.Sublist ((l.filter p).map f)) :
    ((if c then [f r] else []) ++ L).Sublist (((r :: l).filter p).map f) := by
  split
  · rename_i h'
    rw [List.filter_cons_of_pos (hc h')]
    exact h.cons_cons _
  · exact h.trans (((List.sublist_cons_self r l).filter p).map f)

/-- the dispatch loop emits no hook of the publish; the handlers it enters directly and the invocations it parks
at its depth are, in order, among the synchronous resp. asynchronous registrations of the snapshot, with the
published type and value and the publish context -/
theorem loop_sound (hE : RecEff I cfg rec) (ty v root obs d : Nat) (l : List Reg) (s : St R) (cl : List Reg) :
    (newTrace s (l.foldl (deliver cfg rec ty v root obs d) (s, cl)).1).filter (isHookAt d) = [] ∧
    (directEnters d (newTrace s (l.foldl (deliver cfg rec ty v root obs d) (s, cl)).1)).Sublist
      ((l.filter (!·.async)).map fun r => (r.rid, ty, v, if r.ctxAware then some root else none)) ∧
    ((newPending s (l.foldl (deliver cfg rec ty v root obs d) (s, cl)).1).filter (·.depth == d)).Sublist
      ((l.filter (·.async)).map fun r => ⟨r, ty, v, root, obs, d⟩) := by
  induction l generalizing s cl with
  | nil => simp [newTrace, newPending, directEnters]
  | cons r l ih =>
    rw [List.foldl_cons]
    obtain ⟨h1, h2⟩ := deliver_proj hE ty v root obs d s cl r
    obtain ⟨pl, e1, h3⟩ := deliver_parked hE ty v root obs d s cl r
    obtain ⟨_, -, -, hD⟩ := deliver_eff hE ty v root obs d s cl r
    generalize deliver cfg rec ty v root obs d (s, cl) r = o at *
    obtain ⟨s1, c1⟩ := o
    obtain ⟨g1, g2, g3⟩ := ih s1 c1
    obtain ⟨_, -, -, hL⟩ := loop_eff hE ty v root obs d l (s1, c1)
    obtain ⟨p2, e2, -⟩ := hL.pending (Or.inr rfl)
    rw [newTrace_trans hD hL, newPending_trans e1 e2, newPending_eq e1,
      List.filter_append, directEnters_append, List.filter_append, h1, h2, h3, g1]
    exact ⟨rfl, sublist_cons_opt (fun h => by simp [h.2]) g2, sublist_cons_opt (fun h => h.2) g3⟩

theorem skips_bg {r : Reg} {v : Nat} {c : Core} (h : Inv0 c) :
    skips r v 0 c ↔ r.accepts v = false ∨ (r.once = true ∧ r.rid ∈ c.executed) := by
  have : c.live 0 = true := by simp [Core.live, h.1]
  simp [skips, this]

/-- with a context that cannot be cancelled the loop passes over no registration whose filter accepts -/
theorem loop_complete (hE : RecEff I cfg rec) (ty v obs d : Nat) (l : List Reg) (s : St R) (cl : List Reg)
    (hinv : Inv0 s.c) : ∀ r ∈ l, r.accepts v = true →
      (r.once = false → r.async = false → (r.rid, ty, v, if r.ctxAware then some 0 else none) ∈
        directEnters d (newTrace s (l.foldl (deliver cfg rec ty v 0 obs d) (s, cl)).1)) ∧
      (r.once = false → r.async = true →
        ⟨r, ty, v, 0, obs, d⟩ ∈ newPending s (l.foldl (deliver cfg rec ty v 0 obs d) (s, cl)).1) ∧
      (r.once = true → r.rid ∈ (l.foldl (deliver cfg rec ty v 0 obs d) (s, cl)).1.c.executed) := by
  induction l generalizing s cl with
  | nil => exact List.forall_mem_nil _
  | cons r l ih =>
    rw [List.foldl_cons]
    have h2 := (deliver_proj hE ty v 0 obs d s cl r).2
    obtain ⟨pl, e1, h3⟩ := deliver_parked hE ty v 0 obs d s cl r
    have h4 := deliver_executed hE ty v 0 obs d s cl r
    obtain ⟨_, -, -, hD⟩ := deliver_eff hE ty v 0 obs d s cl r
    have hF := hD.fr
    generalize deliver cfg rec ty v 0 obs d (s, cl) r = o at *
    obtain ⟨s1, c1⟩ := o
    obtain ⟨_, -, -, hL'⟩ := loop_eff hE ty v 0 obs d l (s1, c1)
    have hL := hL'.fr
    obtain ⟨p2, e2, -⟩ := hL'.pending (Or.inr rfl)
    rw [newTrace_trans hD hL', newPending_trans e1 e2, newPending_eq e1, directEnters_append]
    intro r' hr' ha
    rcases List.mem_cons.1 hr' with rfl | h
    · have hsk := skips_bg (r := r') (v := v) hinv
      refine ⟨fun ho hy => List.mem_append_left _ ?_, fun ho hy => List.mem_append_left _ ?_, fun ho => ?_⟩
      · rw [h2, if_pos (by simp [hsk, ha, ho, hy])]; exact List.mem_singleton_self _
      · have : pl.filter (·.depth == d) = [_] := h3.trans (if_pos (by simp [hsk, ha, ho, hy]))
        exact (List.mem_filter.1 (this ▸ List.mem_singleton_self _)).1
      · by_cases hs : skips r' v 0 s.c
        · exact hL.ex _ (hF.ex _ ((hsk.1 hs).resolve_left (by simp [ha])).2)
        · exact hL.ex _ (h4 hs ho)
    · obtain ⟨k1, k2, k3⟩ := ih s1 c1 (hF.inv0 hinv) r' h ha
      exact ⟨fun a b => List.mem_append_right _ (k1 a b), fun a b => List.mem_append_right _ (k2 a b), k3⟩

/-- once the publish context is cancelled the loop only evaluates filters -/
theorem loop_dead (ty v root obs d : Nat) (l : List Reg) (s : St R) (cl : List Reg) (hdead : s.c.live root = false) :
    (l.foldl (deliver cfg rec ty v root obs d) (s, cl)).2 = cl ∧
    Same s (l.foldl (deliver cfg rec ty v root obs d) (s, cl)).1 ∧
    (l.foldl (deliver cfg rec ty v root obs d) (s, cl)).1.c.live root = false ∧
    ∃ t, (l.foldl (deliver cfg rec ty v root obs d) (s, cl)).1.c.trace = s.c.trace ++ t ∧
      ∀ e ∈ t, isEnter e = false := by
  induction l generalizing s with
  | nil => exact ⟨rfl, .refl, hdead, [], (List.append_nil _).symm, List.forall_mem_nil _⟩
  | cons r l ih =>
    rw [List.foldl_cons, deliver_cases, if_pos (c := skips ..) (Or.inr (Or.inl (Or.inl hdead)))]
    obtain ⟨g1, g2, g3, t, g4, g5⟩ := ih (dFilt d v root r s) (by rw [dFilt_live, hdead]; rfl)
    exact ⟨g1, (dFilt_same ..).trans g2, g3, filtEv d v r ++ t, by rw [g4, dFilt_trace, List.append_assoc],
      all_append (all_noenter_plain (filtEv_plain d v r)) g5⟩

def hookL (b : Bool) (d : Nat) (k : HookKind) (ty v : Nat) : List Ev := if b then [Ev.hook d k ty v] else []

theorem hookL_filter (b : Bool) (d : Nat) (k : HookKind) (ty v : Nat) :
    (hookL b d k ty v).filter (isHookAt d) = hookL b d k ty v := by
  cases b <;> simp [hookL, isHookAt]

theorem hookL_hooks (b b' : Bool) (d : Nat) (k k' : HookKind) (ty v : Nat) {o pe : List Ev}
    (ho : ∀ e ∈ o, e.depth = d ∧ plain e = true) (hpe : ∀ e ∈ pe, e.depth = d ∧ plain e = true) :
    (o ++ (hookL b d k ty v ++ (hookL b' d k' ty v ++ pe))).filter (isHookAt d) = hookL b d k ty v ++ hookL b' d k' ty v ∧
    ∀ e ∈ o ++ (hookL b d k ty v ++ (hookL b' d k' ty v ++ pe)), isEnter e = false := by
  refine ⟨?_, all_append (all_noenter_plain ho) (all_append (all_ite _ _ rfl)
    (all_append (all_ite _ _ rfl) (all_noenter_plain hpe)))⟩
  rw [List.filter_append, List.filter_append, List.filter_append, hookL_filter, hookL_filter,
    filter_nil fun e he => plain_nohook d (ho e he).2, filter_nil fun e he => plain_nohook d (hpe e he).2,
    List.nil_append, List.append_nil]

theorem pubSnap_pre (fr : Frame) (ty v : Nat) (bad : Bool) (sel : CtxSel) (s : St R) :
    ∃ pre, (pubSnap cfg fr ty v bad sel s).c.trace = s.c.trace ++ pre ∧
      pre.filter (isHookAt fr.depth) = hookL cfg.hookBL fr.depth .bl ty v ++ hookL cfg.hookBC fr.depth .bc ty v ∧
      ∀ e ∈ pre, isEnter e = false := by
  have ht : (pubSnap cfg fr ty v bad sel s).c.trace = _ := persist_trace ..
  simp only [emitIf_trace, openSpan_trace, List.append_assoc] at ht
  rw [(pubCtx_silent fr sel s).2.trace] at ht
  exact ⟨_, ht, hookL_hooks _ _ _ _ _ _ _ (all_ite _ _ ⟨rfl, rfl⟩) (persistEvs_plain _ _ _ _ _ _ _)⟩

theorem pubAfter_post (d ty v pid : Nat) (s1 : St R) (claimed : List Reg) :
    ∃ post, (closeSpan cfg d .pc pid ty false (pubAfter I cfg d ty v (s1, claimed))).c.trace = s1.c.trace ++ post ∧
      post.filter (isHookAt d) = hookL cfg.hookAL d .al ty v ++ hookL cfg.hookAC d .ac ty v ∧
      ∀ e ∈ post, isEnter e = false := by
  have ht : (closeSpan cfg d .pc pid ty false (pubAfter I cfg d ty v (s1, claimed))).c.trace = _ := emitIf_trace ..
  rw [pubAfter_c, emitIf_trace, emitIf_trace, List.append_assoc, List.append_assoc] at ht
  exact ⟨_, ht, hookL_hooks (o := []) _ _ _ _ _ _ _ (List.forall_mem_nil _) (all_ite _ _ ⟨rfl, rfl⟩)⟩

theorem pubSnap_dead (fr : Frame) (ty v : Nat) (bad : Bool) (s : St R) :
    (pubSnap cfg fr ty v bad .dead s).c.live (pubCtx fr .dead s).1 = false := by
  simp [pubSnap, pubBefore, openSpan_eq, Core.live, pubCtx]

theorem pubLoop_dead (fr : Frame) (ty v : Nat) (bad : Bool) (s : St R) :
    (pubLoop I cfg rec fr ty v bad .dead s).2 = [] ∧
    Same (pubSnap cfg fr ty v bad .dead s) (pubLoop I cfg rec fr ty v bad .dead s).1 ∧
    ∃ t, (pubLoop I cfg rec fr ty v bad .dead s).1.c.trace = (pubSnap cfg fr ty v bad .dead s).c.trace ++ t ∧
      ∀ e ∈ t, isEnter e = false :=
  have h := loop_dead (cfg := cfg) (rec := rec) ty v _ (pubObs cfg fr .dead s) fr.depth
    (I.get (pubSnap cfg fr ty v bad .dead s).reg ty) _ [] (pubSnap_dead fr ty v bad s)
  ⟨h.1, h.2.1, h.2.2.2⟩

/-- the events of a publish: the before-hooks, the dispatch loop, the after-hooks; what it parks, claims and
enters directly is what the loop does -/
theorem publish_struct (hE : RecEff I cfg rec) (fr : Frame) (ty v : Nat) (bad : Bool) (sel : CtxSel) (s : St R) :
    ∃ pre post, newTrace s (publish I cfg rec fr ty v bad sel s) =
        pre ++ newTrace (pubSnap cfg fr ty v bad sel s) (pubLoop I cfg rec fr ty v bad sel s).1 ++ post ∧
      pre.filter (isHookAt fr.depth) = hookL cfg.hookBL fr.depth .bl ty v ++ hookL cfg.hookBC fr.depth .bc ty v ∧
      post.filter (isHookAt fr.depth) = hookL cfg.hookAL fr.depth .al ty v ++ hookL cfg.hookAC fr.depth .ac ty v ∧
      (∀ e ∈ pre, isEnter e = false) ∧ (∀ e ∈ post, isEnter e = false) ∧
      directEnters fr.depth (newTrace s (publish I cfg rec fr ty v bad sel s)) =
        directEnters fr.depth (newTrace (pubSnap cfg fr ty v bad sel s) (pubLoop I cfg rec fr ty v bad sel s).1) ∧
      newPending s (publish I cfg rec fr ty v bad sel s) =
        newPending (pubSnap cfg fr ty v bad sel s) (pubLoop I cfg rec fr ty v bad sel s).1 ∧
      (publish I cfg rec fr ty v bad sel s).c.executed = (pubLoop I cfg rec fr ty v bad sel s).1.c.executed := by
  obtain ⟨pre, a1, a2, a3⟩ := pubSnap_pre (cfg := cfg) fr ty v bad sel s
  obtain ⟨mid, b1, -⟩ := (pubLoop_eff hE fr ty v bad sel s).1.tags
  rw [publish_eq]
  generalize pubLoop I cfg rec fr ty v bad sel s = out at *
  obtain ⟨s1, claimed⟩ := out
  obtain ⟨post, c1, c2, c3⟩ := pubAfter_post (I := I) (cfg := cfg) fr.depth ty v (pubCtx fr sel s).2.2.c.nextObs s1 claimed
  have ht := newTrace_eq (s := s) (c1.trans (by rw [b1, a1, List.append_assoc, List.append_assoc]))
  refine ⟨pre, post, by rw [ht, newTrace_eq b1, List.append_assoc], a2, c2, a3, c3, ?_, ?_, ?_⟩
  · rw [ht, newTrace_eq b1, directEnters_append, directEnters_append, directEnters_noenter a3, directEnters_noenter c3,
      List.nil_append, List.append_nil]
  · unfold newPending
    rw [(closeSpan_same ..).pending, pubAfter_c, emitIf_pending, emitIf_pending, (pubSnap_same ..).pending]
  · rw [(closeSpan_same ..).executed, pubAfter_c, emitIf_executed, emitIf_executed]

end struct

end BF
open BF

theorem trace_extends {R : Type} (I : RegImpl R) (cfg : Config) (n : Nat) (fr : Frame) (s : St R) (a : Action) :
    ∃ l, (exec I cfg n fr s a).c.trace = s.c.trace ++ l ∧ ∀ e ∈ l, fr.depth ≤ e.depth :=
  (exec_eff I cfg n fr s a).tags.imp fun _ h => ⟨h.1, fun x hx => (h.2 x hx).1⟩

theorem wf_exec {R : Type} (I : RegImpl R) (hI : I.Lawful) (cfg : Config) (n : Nat) (fr : Frame) (s : St R)
    (a : Action) (h : WF I s) : WF I (exec I cfg n fr s a) :=
  (exec_eff I cfg n fr s a).fr.wf hI h

/-- a panic never escapes to the top level -/
theorem no_panic_escapes {R : Type} (I : RegImpl R) (cfg : Config) (fuel : Nat) (faults : List Bool)
    (prog : List Action) : (run I cfg fuel faults prog).c.panicking = none :=
  (run_eff I cfg fuel faults prog).nopanic rfl rfl

/-- DELIVERY, soundness: the handlers a publish enters directly are registrations of the
snapshot taken when it began (so: of the published type, never one subscribed during the
delivery), each at most once and in subscription order, with the published type and value
and — for context-aware handlers — the publish context; the async ones it parks likewise -/
theorem publish_sound {R : Type} (I : RegImpl R) (hI : I.Lawful) (cfg : Config) (n : Nat) (fr : Frame)
    (ty v : Nat) (bad : Bool) (sel : CtxSel) (s : St R) :
    let s' := publish I cfg (exec I cfg n) fr ty v bad sel s
    (∃ l, s'.c.trace = s.c.trace ++ l) ∧ (∃ p, s'.c.pending = s.c.pending ++ p) ∧
    List.Sublist ((directEnters fr.depth (newTrace s s')).map (·.1))
      (((I.get s.reg ty).filter (fun r => !r.async)).map (·.rid)) ∧
    (∀ x ∈ directEnters fr.depth (newTrace s s'), x.2.1 = ty ∧ x.2.2.1 = v) ∧
    List.Sublist (((newPending s s').filter (fun q => q.depth == fr.depth)).map (·.reg))
      ((I.get s.reg ty).filter (fun r => r.async)) ∧
    (∀ q ∈ newPending s s', q.depth = fr.depth → q.ty = ty ∧ q.v = v) := by
  intro s'
  have _ := hI  -- part of the statement, not needed
  obtain ⟨pre, post, -, -, -, -, -, h6, h7, -⟩ := publish_struct (exec_eff I cfg n) fr ty v bad sel s
  obtain ⟨-, g2, g3⟩ := loop_sound (exec_eff I cfg n) ty v (pubCtx fr sel s).1 (pubObs cfg fr sel s) fr.depth
    (I.get (pubSnap cfg fr ty v bad sel s).reg ty) (pubSnap cfg fr ty v bad sel s) []
  obtain ⟨p, hp, -⟩ := (pubLoop_eff (exec_eff I cfg n) fr ty v bad sel s).1.pending (Or.inr rfl)
  rw [h6, h7, ← (pubSnap_same (cfg := cfg) fr ty v bad sel s).reg]
  refine ⟨(publish_eff (exec_eff I cfg n) fr ty v bad sel s).tags.imp fun _ h => h.1, ⟨p, ?_⟩,
    by have := g2.map (·.1); rw [List.map_map] at this; exact this, fun x hx => ?_,
    by have := g3.map (·.reg); rw [List.map_map] at this; change List.Sublist _ (List.map id _) at this
       rwa [List.map_id] at this, fun q hq hd => ?_⟩
  · show (publish I cfg (exec I cfg n) fr ty v bad sel s).c.pending = _
    rw [publish_eq, (closeSpan_same ..).pending, pubAfter_c, emitIf_pending, emitIf_pending]
    exact hp.trans (by rw [(pubSnap_same ..).pending])
  · obtain ⟨r, -, rfl⟩ := List.mem_map.1 (g2.subset hx)
    exact ⟨rfl, rfl⟩
  · obtain ⟨r, -, rfl⟩ := List.mem_map.1 (g3.subset (List.mem_filter.2 ⟨hq, beq_iff_eq.2 hd⟩))
    exact ⟨rfl, rfl⟩

/-- at most once: in a well-formed registry the rids entered directly are pairwise distinct -/
theorem publish_at_most_once {R : Type} (I : RegImpl R) (hI : I.Lawful) (cfg : Config) (n : Nat) (fr : Frame)
    (ty v : Nat) (bad : Bool) (sel : CtxSel) (s : St R) (hwf : WF I s) :
    let s' := publish I cfg (exec I cfg n) fr ty v bad sel s
    ((directEnters fr.depth (newTrace s s')).map (·.1)).Nodup := by
  intro s'
  have h := (publish_sound I hI cfg n fr ty v bad sel s).2.2.1
  exact (h.trans (List.filter_sublist.map _)).nodup (hwf ty).1

/-- DELIVERY, completeness: with a context that cannot be cancelled, every registration of
the snapshot whose filter accepts the event is invoked (sync) or parked for invocation
(async) — whatever the other handlers do: unsubscribe it, clear, publish, panic -/
theorem publish_complete {R : Type} (I : RegImpl R) (hI : I.Lawful) (cfg : Config) (n : Nat) (fr : Frame)
    (ty v : Nat) (bad : Bool) (s : St R) (h0 : 0 ∉ s.c.cancelled) (hctx : 0 < s.c.nextCtx) :
    let s' := publish I cfg (exec I cfg n) fr ty v bad .bg s
    ∀ r ∈ I.get s.reg ty, r.accepts v = true →
      (r.once = false → r.async = false → ∃ ctx, (r.rid, ty, v, ctx) ∈ directEnters fr.depth (newTrace s s')) ∧
      (r.once = false → r.async = true → ∃ q ∈ newPending s s', q.reg = r ∧ q.depth = fr.depth ∧ q.v = v) ∧
      (r.once = true → r.rid ∈ s'.c.executed) := by
  intro s'
  have _ := hI  -- part of the statement, not needed
  obtain ⟨-, -, -, -, -, -, -, h6, h7, h8⟩ := publish_struct (exec_eff I cfg n) fr ty v bad .bg s
  rw [h6, h7, h8, ← (pubSnap_same (cfg := cfg) fr ty v bad .bg s).reg]
  intro r hr ha
  obtain ⟨k1, k2, k3⟩ := loop_complete (exec_eff I cfg n) ty v (pubObs cfg fr .bg s) fr.depth _
    (pubSnap cfg fr ty v bad .bg s) [] ((pubSnap_same ..).inv0 ⟨h0, hctx⟩) r hr ha
  exact ⟨fun x y => ⟨_, k1 x y⟩, fun x y => ⟨_, k2 x y, rfl, rfl, rfl⟩, k3⟩

/-- a registration whose filter rejects the event is not used up by that delivery step -/
theorem deliver_rejected_inert {R : Type} (cfg : Config) (rec : Frame → St R → Action → St R)
    (ty v root obs d : Nat) (s : St R) (claimed : List Reg) (r : Reg) (hrej : r.accepts v = false) :
    let out := deliver cfg rec ty v root obs d (s, claimed) r
    out.2 = claimed ∧ out.1.c.executed = s.c.executed ∧ out.1.reg = s.reg ∧ out.1.c.pending = s.c.pending ∧
    (∀ e ∈ newTrace s out.1, isEnter e = false) := by
  intro out
  have ho : out = (dFilt d v root r s, claimed) := (deliver_cases ..).trans (if_pos (c := skips ..) (Or.inl hrej))
  rw [ho, newTrace_eq (dFilt_trace ..)]
  exact ⟨rfl, (dFilt_same ..).executed, (dFilt_same ..).reg, (dFilt_same ..).pending,
    all_noenter_plain (filtEv_plain d v r)⟩

/-- C08: a filter is user code that runs inside the dispatch loop and may cancel the context handed to
`PublishContext`.  If the filter of registration `r` does so (a real context: `root ≠ 0`), then this publish
starts no further handler: neither `r` itself nor any later registration `rest` of the snapshot is entered,
parked or claimed (whether or not the filter accepts the event), and the context stays cancelled -/
theorem filter_cancel_stops_dispatch {R : Type} (cfg : Config) (rec : Frame → St R → Action → St R)
    (ty v root obs d : Nat) (s : St R) (claimed : List Reg) (r : Reg) (rest : List Reg)
    (hfilt : r.filt.isSome = true) (hcan : r.filtCancels = true) (hroot : root ≠ 0) :
    let mid := deliver cfg rec ty v root obs d (s, claimed) r
    let out := (r :: rest).foldl (deliver cfg rec ty v root obs d) (s, claimed)
    mid.1.c.cancelled = root :: s.c.cancelled ∧ mid.1.c.live root = false ∧ out.1.c.live root = false ∧
    out.2 = claimed ∧ out.1.c.executed = s.c.executed ∧ out.1.reg = s.reg ∧ out.1.c.pending = s.c.pending ∧
    (∀ e ∈ newTrace s out.1, isEnter e = false) := by
  intro mid out
  have hk : cancelsAt r root = true := by simp [cancelsAt, hfilt, hcan, hroot]
  have hm : mid = (dFilt d v root r s, claimed) := (deliver_cases ..).trans (if_pos (c := skips ..) (Or.inr (Or.inl (Or.inr hk))))
  have hdead : (dFilt d v root r s).c.live root = false := by rw [dFilt_live, hk]; simp
  obtain ⟨g1, g2, g3, l, g4, g5⟩ := loop_dead (cfg := cfg) (rec := rec) ty v root obs d rest _ claimed hdead
  have ho : out = rest.foldl (deliver cfg rec ty v root obs d) (dFilt d v root r s, claimed) :=
    (List.foldl_cons ..).trans (congrArg (fun p => List.foldl (deliver cfg rec ty v root obs d) p rest) hm)
  have hS := (dFilt_same d v root r s).trans g2
  rw [hm, ho, newTrace_eq (g4.trans (by rw [dFilt_trace, List.append_assoc]))]
  exact ⟨by rw [dFilt_eq, hk]; rfl, hdead, g3, g1, hS.executed, hS.reg, hS.pending,
    all_append (all_noenter_plain (filtEv_plain d v r)) g5⟩

/-- non-vacuity of `filter_cancel_stops_dispatch`: two handlers on type 1, the first with an accepting filter
that cancels the publish context; a publish with a fresh context evaluates the filter and enters nobody … -/
example :
    (run flatImpl { bodies := [[]] } 3 []
      [.subscribe 1 0 false false false (some (1, 0)) 0 true, .subscribe 1 1 false false false none 0 false,
       .publish 1 5 false .fresh]).c.trace = [.filt 0 0 5 true] := by decide

/-- … whereas with the same filter not cancelling, both handlers run -/
example :
    (run flatImpl { bodies := [[]] } 3 []
      [.subscribe 1 0 false false false (some (1, 0)) 0 false, .subscribe 1 1 false false false none 0 false,
       .publish 1 5 false .fresh]).c.trace =
      [.filt 0 0 5 true, .enter 1 0 1 5 none false, .exit 1 0, .enter 1 1 1 5 none false, .exit 1 1] := by decide

/-- … and a background context cannot be cancelled by a filter -/
example :
    (run flatImpl { bodies := [[]] } 3 []
      [.subscribe 1 0 false false false (some (1, 0)) 0 true, .subscribe 1 1 false false false none 0 false,
       .publish 1 5 false .bg]).c.trace =
      [.filt 0 0 5 true, .enter 1 0 1 5 none false, .exit 1 0, .enter 1 1 1 5 none false, .exit 1 1] := by decide

/-- C08/C04: a publish whose context is already cancelled runs no handler, parks none,
consumes no once handler and leaves the registry alone -/
theorem dead_publish_inert {R : Type} (I : RegImpl R) (hI : I.Lawful) (cfg : Config) (n : Nat) (fr : Frame)
    (ty v : Nat) (bad : Bool) (s : St R) :
    let s' := publish I cfg (exec I cfg n) fr ty v bad .dead s
    (∀ e ∈ newTrace s s', isEnter e = false) ∧ s'.c.pending = s.c.pending ∧
    s'.c.executed = s.c.executed ∧ (∀ t, I.get s'.reg t = I.get s.reg t) := by
  intro s'
  have _ := hI  -- part of the statement, not needed
  have hs' : s' = publish I cfg (exec I cfg n) fr ty v bad .dead s := rfl
  rw [publish_eq] at hs'
  have hS := pubSnap_same (cfg := cfg) fr ty v bad .dead s
  obtain ⟨pre, a1, -, a3⟩ := pubSnap_pre (cfg := cfg) fr ty v bad .dead s
  obtain ⟨b1, b2, l, b4, b5⟩ := pubLoop_dead (I := I) (cfg := cfg) (rec := exec I cfg n) fr ty v bad s
  generalize pubLoop I cfg (exec I cfg n) fr ty v bad .dead s = out at *
  obtain ⟨s1, claimed⟩ := out
  simp only at b1 b2 b4
  subst b1
  obtain ⟨post, c1, -, c3⟩ := pubAfter_post (I := I) (cfg := cfg) fr.depth ty v (pubCtx fr .dead s).2.2.c.nextObs s1 []
  have hS' := hS.trans b2
  rw [← hs'] at c1
  refine ⟨?_, ?_, ?_, fun t => ?_⟩
  · rw [newTrace_eq (c1.trans (by rw [b4, a1, List.append_assoc, List.append_assoc]))]
    exact all_append a3 (all_append b5 c3)
  · rw [hs', (closeSpan_same ..).pending, pubAfter_c, emitIf_pending, emitIf_pending, hS'.pending]
  · rw [hs', (closeSpan_same ..).executed, pubAfter_c, emitIf_executed, emitIf_executed, hS'.executed]
  · rw [hs', (closeSpan_same ..).reg, pubAfter_reg, hS'.reg]; rfl

/-- C04/C05: at the end of every top-level run no fired once-handler is still registered -/
theorem once_retired_after_run {R : Type} (I : RegImpl R) (hI : I.Lawful) (cfg : Config) (fuel : Nat)
    (faults : List Bool) (prog : List Action) :
    let s := run I cfg fuel faults prog
    ∀ t, ∀ r ∈ I.get s.reg t, r.once = true → r.rid ∉ s.c.executed := by
  intro s t r hr ho he
  obtain ⟨hw, hg, hq⟩ := initSt_inv hI faults
  exact absurd (((run_eff I cfg fuel faults prog).outstanding hI hw hg [] hq (List.forall_mem_nil _)).1 t r hr ho he)
    List.not_mem_nil

end Ebu.Bus
