import Ebu.Model.SaveConc
/-!
M5c: with `saveMu` the values saved for the subscription never decrease under any schedule (`Inv`); without it they can.
-/
namespace Ebu.SaveConc

/-- "the history never decreases" is not inductive by itself: a save appends `lastOffset` to the history. What makes it
so is the second clause, every value saved so far is `≤ lastOffset`, which holds because `lastOffset` only grows -/
def Inv (s : St) : Prop :=
  Monotone s.history ∧ (∀ x ∈ s.history, x ≤ s.lastOffset) ∧ s.saved ≤ s.lastOffset ∧
  (∀ x, s.history.getLast? = some x → s.saved = x)

theorem inv_stepLocked (s : St) (i : Nat) (h : Inv s) : Inv (stepLocked s i) := by
  -- the cases of `stepLocked` in the model's order: no such thread, persist, nothing persisted yet, the save, done
  unfold stepLocked
  split
  · exact h
  · obtain ⟨hm, hle, hs, hl⟩ := h
    split
    · refine ⟨hm, fun x hx => Nat.le_succ_of_le (hle x hx), Nat.le_succ_of_le hs, hl⟩
    · split
      · split
        · exact ⟨hm, hle, hs, hl⟩
        · refine ⟨?_, ?_, Nat.le_refl _, ?_⟩
          · unfold Monotone at *
            rw [List.pairwise_append]
            refine ⟨hm, by simp, ?_⟩
            intro a ha b hb
            simp at hb; subst hb
            exact hle a ha
          · intro x hx
            simp at hx
            rcases hx with hx | rfl
            · exact hle x hx
            · exact Nat.le_refl _
          · intro x hx; simp at hx; exact hx
      · exact ⟨hm, hle, hs, hl⟩

theorem inv_runLocked (n : Nat) (sched : List Nat) : Inv (runLocked n sched) :=
  List.foldlRecOn sched stepLocked
    ⟨by simp [Monotone, init], by simp [init], by simp [init], by simp [init]⟩
    (fun s hs i _ => inv_stepLocked s i hs)

/-- C12, concurrent clause: under every schedule of any number of concurrent publishes the values saved for the
subscription never decrease, and the saved position is always the last value saved -/
theorem saved_offset_monotone_concurrent (n : Nat) (sched : List Nat) :
    Monotone (runLocked n sched).history ∧ (runLocked n sched).saved ≤ (runLocked n sched).lastOffset ∧
    (∀ x, (runLocked n sched).history.getLast? = some x → (runLocked n sched).saved = x) :=
  let ⟨hm, _, hs, hl⟩ := inv_runLocked n sched
  ⟨hm, hs, hl⟩

/-- without the save mutex the saved offset can move backwards: thread 0 reads offset 1, thread 1 persists,
reads 2 and saves 2, then thread 0 saves its stale 1 -/
theorem unlocked_saved_offset_regresses :
    (runUnlocked 2 [0, 0, 1, 1, 1, 0]).history = [2, 1] ∧ (runUnlocked 2 [0, 0, 1, 1, 1, 0]).saved = 1 := by
  decide

/-- non-vacuity: the same schedule on the locked machine -/
example : (runLocked 2 [0, 0, 1, 1, 1, 0]).history = [1, 2] ∧ (runLocked 2 [0, 0, 1, 1, 1, 0]).saved = 2 := by
  decide

end Ebu.SaveConc
