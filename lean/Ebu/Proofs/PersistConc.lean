import Ebu.Model.PersistConc
/-!
M2p: what every schedule of concurrent publishers keeps true of the log (`OffsetsOk`, `LogOk`, `SeenOk`). The second
part is model code: the same publishers with the critical section cut in two (`UThread`, `USt`, `ustepAt`), which
stands here beside the counterexample it is there for.
-/
namespace Ebu.PersistConc

theorem stepAt_ind {Q : St → Prop} {s : St} {i : Nat} (stutter : Q s)
    (persist : ∀ t, s.threads[i]? = some t → t.pc = 0 →
      Q { s with log := s.log ++ [(s.log.length + 1, t.record)], lastOffset := s.log.length + 1,
                 threads := s.threads.set i { t with pc := 1 } })
    (deliver : ∀ t, s.threads[i]? = some t → t.pc = 1 →
      Q { s with seen := s.seen ++ [(t.record, s.log)], threads := s.threads.set i { t with pc := 2 } }) :
    Q (stepAt s i) := by
  unfold stepAt
  split
  · exact stutter
  · rename_i t ht
    split
    · exact persist t ht ‹_›
    · split
      · exact deliver t ht ‹_›
      · exact stutter

theorem run_inv (P : St → Prop) {recs : List Nat} (h0 : P (init recs)) (hstep : ∀ s i, P s → P (stepAt s i))
    (sched : List Nat) : P (run recs sched) :=
  List.foldlRecOn sched stepAt h0 (fun s hs i _ => hstep s i hs)

def OffsetsOk (s : St) : Prop := s.log.map (·.1) = List.range' 1 s.log.length ∧ s.lastOffset = s.log.length

theorem offsetsOk_stepAt (s : St) (i : Nat) (h : OffsetsOk s) : OffsetsOk (stepAt s i) :=
  stepAt_ind h (fun _ _ _ => ⟨by simp [h.1, List.range'_concat]; omega, by simp⟩) fun _ _ _ => h

theorem offsets_ok (recs sched : List Nat) : OffsetsOk (run recs sched) :=
  run_inv OffsetsOk (by simp [OffsetsOk, init]) offsetsOk_stepAt sched

/-- the log holds exactly the records of the threads that have persisted: one record each, none lost, none twice -/
def LogOk (s : St) : Prop := (s.log.map (·.2)).Perm (persistedRecs s)

theorem persistedRecs_set (l : List Thread) (i : Nat) (t : Thread) (k : Nat) (h : l[i]? = some t)
    (hk : 0 < k) :
    (((l.set i { t with pc := k }).filter (fun t => 0 < t.pc)).map (·.record)).Perm
      ((if 0 < t.pc then [] else [t.record]) ++ (l.filter (fun t => 0 < t.pc)).map (·.record)) := by
  induction l generalizing i with
  | nil => simp at h
  | cons a l ih =>
    cases i with
    | zero =>
      simp at h; subst h
      by_cases hpc : 0 < a.pc <;> simp [hpc, hk]
    | succ i =>
      simp at h
      have := ih i h
      simp only [List.set_cons_succ, List.filter_cons]
      split
      · simp only [List.map_cons]
        exact (List.Perm.cons _ this).trans List.perm_middle.symm
      · exact this

theorem logOk_stepAt (s : St) (i : Nat) (h : LogOk s) : LogOk (stepAt s i) := by
  refine stepAt_ind h (fun t ht hpc => ?_) fun t ht hpc => ?_ <;> unfold LogOk persistedRecs at *
  · simp only [List.map_append, List.map_cons, List.map_nil]
    refine (List.perm_append_comm.trans ?_).trans (persistedRecs_set s.threads i t 1 ht (by omega)).symm
    simpa [hpc] using h
  · have := persistedRecs_set s.threads i t 2 ht (by omega)
    rw [if_pos (by omega), List.nil_append] at this
    exact h.trans this.symm

theorem log_ok (recs sched : List Nat) : LogOk (run recs sched) :=
  run_inv LogOk (by simp [LogOk, init, persistedRecs, List.filter_map, Function.comp_def]) logOk_stepAt sched

/-- every handler runs with its own event already in the log it can read -/
def SeenOk (s : St) : Prop :=
  (∀ p ∈ s.seen, p.1 ∈ p.2.map (·.2)) ∧
  (∀ t ∈ s.threads, 0 < t.pc → t.record ∈ s.log.map (·.2))

theorem seenOk_stepAt (s : St) (i : Nat) (h : SeenOk s) : SeenOk (stepAt s i) := by
  obtain ⟨h1, h2⟩ := h
  refine stepAt_ind ⟨h1, h2⟩ (fun t _ _ => ⟨h1, fun t' ht' hpc' => ?_⟩) fun t ht hpc => ?_
  · simp only [List.map_append, List.map_cons, List.map_nil, List.mem_append, List.mem_singleton]
    rcases List.mem_or_eq_of_mem_set ht' with hm | rfl
    · exact Or.inl (h2 t' hm hpc')
    · exact Or.inr rfl
  · have hpers := h2 t (List.mem_of_getElem? ht) (by omega)
    refine ⟨fun p hp => ?_, fun t' ht' hpc' => ?_⟩
    · simp only [List.mem_append, List.mem_singleton] at hp
      rcases hp with hp | rfl
      · exact h1 p hp
      · exact hpers
    · rcases List.mem_or_eq_of_mem_set ht' with hm | rfl
      · exact h2 t' hm hpc'
      · exact hpers

theorem seen_ok (recs sched : List Nat) : SeenOk (run recs sched) :=
  run_inv SeenOk (by simp [SeenOk, init]) seenOk_stepAt sched

theorem all_persisted_length (recs sched : List Nat) (hall : ∀ t ∈ (run recs sched).threads, 0 < t.pc) :
    (run recs sched).log.length = (run recs sched).threads.length := by
  have h := (log_ok recs sched).length_eq
  simp only [persistedRecs, List.length_map] at h
  rw [h, List.filter_eq_self.mpr (by simpa using hall)]

theorem threads_length (recs sched : List Nat) : (run recs sched).threads.length = recs.length :=
  run_inv (·.threads.length = recs.length) (by simp [init])
    (fun s i h => stepAt_ind (Q := (·.threads.length = recs.length)) h (fun _ _ _ => by simpa using h)
      fun _ _ _ => by simpa using h) sched

structure UThread where
  record : Nat
  pc : Nat := 0        -- 0 = start, 1 = offset reserved, 2 = inserted
  off : Nat := 0
deriving Repr

structure USt where
  log : List (Nat × Nat) := []
  threads : List UThread := []
deriving Repr

def ustepAt (s : USt) (i : Nat) : USt :=
  match s.threads[i]? with
  | none => s
  | some t =>
    if t.pc = 0 then { s with threads := s.threads.set i { t with pc := 1, off := s.log.length + 1 } }
    else if t.pc = 1 then { s with log := s.log ++ [(t.off, t.record)], threads := s.threads.set i { t with pc := 2 } }
    else s

/-- without the lock two publishers can be given the same offset -/
theorem unlocked_duplicates_offsets :
    (([0, 1, 0, 1].foldl ustepAt { threads := [{ record := 7 }, { record := 8 }] }).log.map (·.1)) = [1, 1] := by
  decide

/-- non-vacuity of the theorems above: three publishers, an interleaved schedule -/
example : (run [7, 8, 9] [1, 0, 1, 2, 2, 0]).log = [(1, 8), (2, 7), (3, 9)] ∧
    (run [7, 8, 9] [1, 0, 1, 2, 2, 0]).seen = [(8, [(1, 8), (2, 7)]), (9, [(1, 8), (2, 7), (3, 9)]), (7, [(1, 8), (2, 7), (3, 9)])] := by
  decide

end Ebu.PersistConc
