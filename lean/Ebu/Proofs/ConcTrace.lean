import Ebu.Spec.ConcOrder
import Ebu.Proofs.ConcBase
/-!
The observable trace of the interleaving model M2: which asynchronous deliveries each goroutine performed.  What a
goroutine has said so far is tied to where it is parked (`JobTr`, `ThTr`), step by step from `step_says`; read off at the
end: an async goroutine makes at most one asynchronous entry, the one for its job, and exactly one if it finishes with its
context live.  The theorems count `asyncEntersOf i tr` and not `entersOf i tr`: see `entersOf_counterexample`.
-/
namespace Ebu.Conc
namespace Inv

theorem announce_filterSp (a : Bool) (th : Thread) : (announce a th).filter Obs.isSpawned = [] := by
  unfold announce; split <;> rfl

theorem result_filterAE (sh : Shared) (th : Thread) : (result sh th).filter Obs.isAsyncEnter = [] := by
  unfold result; split <;> rfl

theorem announce_filterAE (th : Thread) : (announce false th).filter Obs.isAsyncEnter = [] := by
  unfold announce; split <;> rfl

theorem step_spawned {sh : Shared} {th : Thread} {o : Out} (h : step sh th = some o) :
    (o.obs.filter Obs.isSpawned).length = o.new.length := by
  rw [step_says h, List.filter_append, announce_filterSp, List.append_nil]
  cases stepR_of_step h
  case spawn hpc _ _ => simp only [result, hpc]; rfl
  case snap hsh | filterAcc hsh | filterRej hsh | claimed hsh | exit hsh | lockDeadSync hsh =>
    rw [hsh.new_nil]; simp [result, Obs.isSpawned, *]
  all_goals simp [result, Obs.isSpawned, *]

theorem step_asyncEnters {sh : Shared} {th : Thread} {o : Out} (h : step sh th = some o)
    (h1 : th.pc ≠ .astart) (h2 : ∀ r, th.pc ≠ .lock r true) : o.obs.filter Obs.isAsyncEnter = [] := by
  have ha : asyncAt sh th = false := by
    unfold asyncAt; split
    · rename_i hpc; exact absurd hpc h1
    · rename_i r a _ _ hpc _; cases a
      · rfl
      · exact absurd hpc (h2 r)
    · rfl
  rw [step_says h, ha, List.filter_append, result_filterAE, announce_filterAE]; rfl

/-- the one event an async goroutine may produce with `async = true` -/
def theEnter (j : Job) : List Obs := [Obs.enter j.reg.rid j.ty j.v true]

/-- async goroutine started for `j`, parked at `pc` with activations `fr`, having produced the async entries `l` -/
def JobTr (sh : Shared) (j : Job) (fr : List Frame) (l : List Obs) : Pc → Prop
  | .astart | .turn => l = []
  | .lock r true => l = [] ∧ r = j.reg ∧ ∃ f, fr = [f] ∧ f.ty = j.ty ∧ f.v = j.v ∧ f.ctx = j.ctx
  | .aend | .done => l = theEnter j ∨ (l = [] ∧ sh.live j.ctx = false)
  | _ => l = theEnter j

/-- goroutine `th` has produced the async entries `l` -/
def ThTr (sh : Shared) (th : Thread) (l : List Obs) : Prop :=
  match th.job with
  | some j => JobTr sh j th.frames l th.pc
  | none => l = [] ∧ th.pc ≠ .astart ∧ ∀ r, th.pc ≠ .lock r true

theorem JobTr.mono {sh sh' : Shared} {j : Job} {fr : List Frame} {l : List Obs} {pc : Pc} (h : JobTr sh j fr l pc)
    (hm : ∀ c, sh.live c = false → sh'.live c = false) : JobTr sh' j fr l pc := by
  unfold JobTr at h ⊢
  split <;> simp_all
  all_goals
    rcases h with h | h
    · exact .inl h
    · exact .inr ⟨h.1, hm _ h.2⟩

theorem ThTr.mono {sh sh' : Shared} {th : Thread} {l : List Obs} (h : ThTr sh th l)
    (hm : ∀ c, sh.live c = false → sh'.live c = false) : ThTr sh' th l := by
  unfold ThTr at h ⊢
  split
  · rename_i j hj; rw [hj] at h; exact JobTr.mono h hm
  · rename_i hj; rw [hj] at h; exact h

theorem JobTr.cases {sh : Shared} {j : Job} {fr : List Frame} {l : List Obs} {pc : Pc} (h : JobTr sh j fr l pc) :
    l = [] ∨ l = theEnter j := by
  unfold JobTr at h
  split at h
  · exact .inl h
  · exact .inl h
  · exact .inl h.1
  · rcases h with h | h
    · exact .inr h
    · exact .inl h.1
  · rcases h with h | h
    · exact .inr h
    · exact .inl h.1
  · exact .inr h

/-- inside the delivery: at these program counters an async goroutine has made its entry and has not ended its work
(`Shape.running` and `JobTr.running` spell the condition out) -/
def Running (pc : Pc) : Prop :=
  pc ≠ .astart ∧ pc ≠ .turn ∧ pc ≠ .aend ∧ pc ≠ .done ∧ ∀ r, pc ≠ .lock r true

theorem Shape.running {sh th f fs PF PC PG o} (h : Shape sh th f fs PF PC PG o) :
    o.th.pc ≠ .astart ∧ o.th.pc ≠ .turn ∧ o.th.pc ≠ .aend ∧ o.th.pc ≠ .done ∧ ∀ r, o.th.pc ≠ .lock r true := by
  cases h <;> simp

theorem JobTr.running {sh : Shared} {j : Job} {fr : List Frame} {pc : Pc}
    (h : pc ≠ .astart ∧ pc ≠ .turn ∧ pc ≠ .aend ∧ pc ≠ .done ∧ ∀ r, pc ≠ .lock r true) :
    JobTr sh j fr (theEnter j) pc := by
  unfold JobTr
  split <;> simp_all

theorem JobTr.of_running {sh : Shared} {j : Job} {fr : List Frame} {l : List Obs} {pc : Pc} (h : Running pc)
    (hI : JobTr sh j fr l pc) : l = theEnter j := by
  unfold JobTr at hI
  split at hI <;> simp_all [Running]

theorem StepR.arrive_async {sh th o} (h : StepR sh th o) :
    o.th.pc ≠ .astart ∧ ∀ r, o.th.pc = .lock r true →
      ∃ j, th.job = some j ∧ r = j.reg ∧ o.sh.turns = sh.turns ++ [(j.reg.rid, j.ticket)] := by
  cases h
  case snap hsh | filterAcc hsh | filterRej hsh | claimed hsh | spawn hsh | exit hsh | lockDeadSync hsh =>
    exact ⟨hsh.running.1, fun r hpc => absurd hpc (hsh.running.2.2.2.2 r)⟩
  case turnRun j _ hj _ _ => exact ⟨by simp, fun _ hpc => by cases hpc; exact ⟨j, hj, rfl, rfl⟩⟩
  all_goals simp [*]

theorem ThTr.step {sh : Shared} {th : Thread} {o : Out} {l : List Obs} (hs : step sh th = some o) (hI : ThTr sh th l) :
    ThTr o.sh o.th (l ++ o.obs.filter Obs.isAsyncEnter) := by
  have hR := stepR_of_step hs
  have hq := step_asyncEnters hs
  unfold ThTr at hI ⊢
  rw [hR.job]
  cases hj : th.job with
  | none =>
    rw [hj] at hI
    obtain ⟨hl, h1, h2⟩ := hI
    rw [hq h1 h2, hl]
    refine ⟨rfl, hR.arrive_async.1, fun r hpc => ?_⟩
    obtain ⟨_, hj', _⟩ := hR.arrive_async.2 r hpc
    rw [hj] at hj'; cases hj'
  | some j =>
    rw [hj] at hI
    -- a step taken inside the delivery adds nothing: the entry has been made
    have fin : Running th.pc → l ++ o.obs.filter Obs.isAsyncEnter = theEnter j := fun h1 => by
      rw [hq h1.1 h1.2.2.2.2, List.append_nil, JobTr.of_running h1 hI]
    -- most such steps end inside the delivery; the others end the goroutine's work (`fin` alone)
    have run : Running th.pc ∧ Running o.th.pc → JobTr o.sh j o.th.frames (l ++ o.obs.filter Obs.isAsyncEnter) o.th.pc :=
      fun h => fin h.1 ▸ JobTr.running h.2
    cases hR
    case snap | filterAcc | filterRej | claimed | spawn | exit =>
      rename_i hsh
      exact run ⟨by simp [Running, *], hsh.running⟩
    case bodyPub | bodyEnd | enterPub | enterEnd | retire | retired | subscribe | unsubscribe | clear | cancel | count |
        wait | publish =>
      exact run (by simp [Running, *])
    case fin hpc _ _ => exact .inl (fin (by simp [Running, hpc]))
    case exitJob hpc _ _ => exact .inl (fin (by simp [Running, hpc]))
    case lockDeadSync r a f fs hpc hfr hj' hfree hl hsh =>
      cases a
      · exact run ⟨by simp [Running, hpc], hsh.running⟩
      · -- an async goroutine at its "handler.lock" has this one activation: the loop is not what it runs next
        rw [hpc] at hI
        obtain ⟨_, _, f', h3, _⟩ := hI
        rw [hfr] at h3; cases h3
        rcases hj' with hj' | hj'
        · rw [hj] at hj'; cases hj'
        · exact absurd rfl hj'
    case lockDeadJob r a j' f hpc hj' hfr hfree hl =>
      rw [hj] at hj'; cases hj'
      cases a
      · exact .inl (fin (by simp [Running, hpc]))
      · rw [hpc] at hI
        obtain ⟨h1, _, f', h3, _, _, h6⟩ := hI
        rw [hfr] at h3; cases h3
        exact .inr ⟨by simp [h1], by rw [← h6]; exact (live_congr rfl _).trans hl⟩
    case lock r a f fs hpc hfr hfree hl =>
      cases a
      · exact run (by simp [Running, hpc])
      · rw [hpc] at hI
        obtain ⟨h1, h2, f', h3, h4, h5, _⟩ := hI
        rw [hfr] at h3; cases h3
        simp [JobTr, h1, h2, h4, h5, Obs.isAsyncEnter, theEnter]
    case astartSeq j' hpc hj' _ => simpa [hpc, JobTr] using hI
    case astartDead j' hpc hj' _ hl =>
      rw [hj] at hj'; cases hj'
      exact .inr ⟨by simpa [hpc, JobTr] using hI, hl⟩
    case astartRun j' hpc hj' _ _ =>
      rw [hj] at hj'; cases hj'
      have h0 : l = [] := by simpa [hpc, JobTr] using hI
      simp [JobTr, h0, Obs.isAsyncEnter, theEnter]
    case turnDead j' hpc hj' hturn hl =>
      rw [hj] at hj'; cases hj'
      have h0 : l = [] := by simpa [hpc, JobTr] using hI
      exact .inr ⟨by simp [h0], (live_congr rfl _).trans hl⟩
    case turnRun j' hpc hj' _ _ =>
      rw [hj] at hj'; cases hj'
      have h0 : l = [] := by simpa [hpc, JobTr] using hI
      simp [JobTr, h0, jobFrame]
    case aend hpc =>
      have h0 : l = theEnter j ∨ (l = [] ∧ sh.live j.ctx = false) := by simpa [hpc, JobTr] using hI
      rcases h0 with h0 | h0
      · exact .inl (by simp [h0, Obs.isAsyncEnter])
      · exact .inr ⟨by simp [h0.1, Obs.isAsyncEnter], (live_congr rfl _).trans h0.2⟩

theorem asyncEntersOf_append (i k : Nat) (tr : List (Nat × Obs)) (obs : List Obs) :
    asyncEntersOf i (tr ++ obs.map (fun e => (k, e))) =
      asyncEntersOf i tr ++ (if k = i then obs.filter Obs.isAsyncEnter else []) := by
  unfold asyncEntersOf
  by_cases hk : k = i <;> simp [List.filter_map, Function.comp_def, hk]

theorem asyncEntersOf_nil {i : Nat} {tr : List (Nat × Obs)} (h : ∀ p ∈ tr, p.1 ≠ i) : asyncEntersOf i tr = [] := by
  unfold asyncEntersOf
  rw [List.map_eq_nil_iff, List.filter_eq_nil_iff]
  intro p hp
  simp [h p hp]

theorem stepAtT_cases {x x' : SysT} {i : Nat} (h : x.stepAt i = some x') :
    ∃ th o, x.s.ths[i]? = some th ∧ step x.s.sh th = some o ∧
      x.s.stepAt i = some { sh := o.sh, ths := x.s.ths.set i o.th ++ o.new } ∧
      x' = { s := { sh := o.sh, ths := x.s.ths.set i o.th ++ o.new }, tr := x.tr ++ o.obs.map (fun e => (i, e)) } := by
  unfold SysT.stepAt at h
  split at h
  · cases h
  · rename_i th hth
    split at h
    · cases h
    · rename_i o ho
      cases h
      exact ⟨th, o, hth, ho, by simp [Sys.stepAt, hth, ho], rfl⟩

theorem _root_.Ebu.Conc.reachableT_reachable {progs : List (List Op)} {x : SysT} (h : ReachableT progs x) : Reachable progs x.s := by
  induction h with
  | init => exact .init
  | step hr hst ih =>
    obtain ⟨_, _, _, _, hst', rfl⟩ := stepAtT_cases hst
    exact .step ih hst'

theorem reachT_ind {progs : List (List Op)} {P : SysT → Prop} (h0 : P { s := initSys progs })
    (hs : ∀ (x : SysT) (i : Nat) (th : Thread) (o : Out), ReachableT progs x → Reachable progs x.s → P x →
      x.s.ths[i]? = some th → step x.s.sh th = some o → StepR x.s.sh th o →
      P { s := { sh := o.sh, ths := x.s.ths.set i o.th ++ o.new }, tr := x.tr ++ o.obs.map (fun e => (i, e)) }) :
    ∀ x, ReachableT progs x → P x := by
  intro x h
  induction h with
  | init => exact h0
  | step hr hst ih =>
    obtain ⟨th, o, hth, ho, _, rfl⟩ := stepAtT_cases hst
    exact hs _ _ _ _ hr (reachableT_reachable hr) ih hth ho (stepR_of_step ho)

def TrInv (x : SysT) : Prop :=
  (∀ p ∈ x.tr, p.1 < x.s.ths.length) ∧ ∀ i th, x.s.ths[i]? = some th → ThTr x.s.sh th (asyncEntersOf i x.tr)

theorem trInv_reachable {progs : List (List Op)} : ∀ x, ReachableT progs x → TrInv x := by
  apply reachT_ind
  · refine ⟨by simp, ?_⟩
    intro i th hth
    obtain ⟨p, _, rfl⟩ := mem_initSys (List.mem_of_getElem? hth)
    simp [ThTr, asyncEntersOf]
  · intro x i0 th0 o _ _ hI hth0 hs hR
    obtain ⟨hlt, hI⟩ := hI
    have hi0 : i0 < x.s.ths.length := (List.getElem?_eq_some_iff.1 hth0).1
    refine ⟨?_, ?_⟩
    · intro p hp
      simp only [List.length_append, List.length_set]
      rcases List.mem_append.1 hp with hp | hp
      · have := hlt p hp; omega
      · simp only [List.mem_map] at hp
        obtain ⟨e, _, rfl⟩ := hp
        simp only; omega
    · intro k t hk
      simp only at hk ⊢
      rw [asyncEntersOf_append]
      rcases hR.thread_cases hk with ⟨hki, hk⟩ | ⟨rfl, rfl⟩ | ⟨hlen, j, rfl⟩
      · rw [if_neg (Ne.symm hki), List.append_nil]
        exact (hI k t hk).mono (fun c hc => hR.live_mono c hc)
      · rw [if_pos rfl]
        exact (hI _ th0 hth0).step hs
      · -- a goroutine just started has said nothing yet
        rw [if_neg (by omega), List.append_nil, asyncEntersOf_nil (fun p hp => by have := hlt p hp; omega)]
        simp [ThTr, JobTr]

theorem spawnedCount_reachable {progs : List (List Op)} : ∀ x, ReachableT progs x →
    (x.tr.filter (fun p => p.2.isSpawned)).length = (x.s.ths.filter (fun th => th.job.isSome)).length := by
  simp only [← List.countP_eq_length_filter (p := fun th : Thread => th.job.isSome), countP_eq_wsum]
  apply reachT_ind
  · rw [wsum_init _ _ (fun _ => rfl)]; rfl
  · intro x i th o _ _ hI hth hs hR
    obtain ⟨m, e, e'⟩ := wsum_split (fun t => if t.job.isSome then 1 else 0) hth
    have hn : wsum (fun t => if t.job.isSome then 1 else 0) o.new = o.new.length := by
      rcases hR.new_cases with e | ⟨j, e⟩ <;> rw [e] <;> rfl
    simp only [List.filter_append, List.length_append, List.filter_map, List.length_map, Function.comp_def, step_spawned hs,
      hI, e, e', hn, hR.job]

end Inv

open Ebu.Conc.Inv

theorem asyncEntersOf_eq (i : Nat) (tr : List (Nat × Obs)) :
    asyncEntersOf i tr = (entersOf i tr).filter Obs.isAsyncEnter := by
  unfold asyncEntersOf entersOf
  rw [List.filter_map, List.filter_filter]
  congr 1
  apply List.filter_congr
  intro p _
  obtain ⟨k, e⟩ := p
  cases e with
  | enter _ _ _ a => cases a <;> simp [Obs.isAsyncEnter]
  | _ => simp [Obs.isAsyncEnter]

/-- the traced system is the plain one with bookkeeping -/
theorem reachable_has_trace {progs : List (List Op)} {s : Sys} (h : Reachable progs s) : ∃ tr, ReachableT progs ⟨s, tr⟩ := by
  induction h with
  | init => exact ⟨[], .init⟩
  | step hr hst ih =>
    rename_i s s' i
    obtain ⟨tr, htr⟩ := ih
    obtain ⟨th, o, hth, ho, _, rfl⟩ := stepAt_cases hst
    exact ⟨tr ++ o.obs.map (fun e => (i, e)), .step (i := i) htr (by simp [SysT.stepAt, hth, ho])⟩

/-- an async goroutine enters at most one handler invocation asynchronously, and only the one it was started for -/
theorem async_at_most_once {progs : List (List Op)} {x : SysT} (h : ReachableT progs x) (i : Nat) (th : Thread) (j : Job)
    (hi : x.s.ths[i]? = some th) (hj : th.job = some j) :
    asyncEntersOf i x.tr = [] ∨ asyncEntersOf i x.tr = [Obs.enter j.reg.rid j.ty j.v true] := by
  have := (trInv_reachable x h).2 i th hi
  simp only [ThTr, hj] at this
  exact this.cases

/-- an async goroutine that has finished has entered the handler it was started for exactly once, provided its publish
context is still live (contexts are only ever cancelled, never revived, so "live at the end" means "live throughout") -/
theorem async_exactly_once_when_done {progs : List (List Op)} {x : SysT} (h : ReachableT progs x) (i : Nat) (th : Thread) (j : Job)
    (hi : x.s.ths[i]? = some th) (hj : th.job = some j) (hd : th.pc = .done) (hl : x.s.sh.live j.ctx = true) :
    asyncEntersOf i x.tr = [Obs.enter j.reg.rid j.ty j.v true] := by
  have := (trInv_reachable x h).2 i th hi
  simp only [ThTr, hj, hd, JobTr, hl] at this
  simpa [theEnter] using this

/-- the goroutines of the test program never deliver asynchronously -/
theorem main_thread_no_async_enter {progs : List (List Op)} {x : SysT} (h : ReachableT progs x) (i : Nat) (th : Thread)
    (hi : x.s.ths[i]? = some th) (hj : th.job = none) : asyncEntersOf i x.tr = [] := by
  have := (trInv_reachable x h).2 i th hi
  simp only [ThTr, hj] at this
  exact this.1

theorem StepsT.reachable {progs : List (List Op)} {x x' : SysT} (h : ReachableT progs x) (hs : StepsT x x') :
    ReachableT progs x' := by
  induction hs with
  | refl => exact h
  | step _ hst ih => exact .step ih hst

namespace TraceExample

def runT (x : SysT) : List Nat → Option SysT
  | [] => some x
  | i :: is => (x.stepAt i).bind (fun x' => runT x' is)

end TraceExample

open TraceExample (runT)

theorem runT_steps {sched : List Nat} : ∀ {x0 x x' : SysT}, StepsT x0 x → runT x sched = some x' → StepsT x0 x' := by
  induction sched with
  | nil => intro x0 x x' h0 h; simp only [runT, Option.some.injEq] at h; exact h ▸ h0
  | cons i is ih =>
    intro x0 x x' h0 h
    simp only [runT] at h
    cases hst : x.stepAt i with
    | none => simp [hst] at h
    | some x1 => rw [hst] at h; exact ih (.step h0 hst) h

theorem runT_reachable {progs : List (List Op)} {sched : List Nat} :
    ∀ {x x' : SysT}, ReachableT progs x → runT x sched = some x' → ReachableT progs x' :=
  fun hr h => StepsT.reachable hr (runT_steps (.refl _) h)

/-! ### the counterexample for `entersOf` -/

namespace TraceExample

/-- `A` (Async, on type 1) publishes type 0 while it runs, where the synchronous `B` listens -/
def cxProgs : List (List Op) :=
  [ [ .subscribe 1 0 false true false none [(0, 5)],   -- A
      .subscribe 0 1 false false false none [],        -- B
      .publish 1 7 .bg ] ]

/-- the publisher runs to the end of `PublishContext` (goroutine 1 is spawned), then goroutine 1 runs to its end:
it enters `A` (async), publishes type 0 from within `A`, enters `B` (synchronously, itself), returns from both -/
def cxSched : List Nat := [0, 0, 0, 0, 0, 1, 1, 1, 1, 1, 1, 1, 1]

theorem cxRuns : (runT { s := initSys cxProgs } cxSched).isSome = true := by decide +kernel

def cxState : SysT := (runT { s := initSys cxProgs } cxSched).get cxRuns

def cxJob : Job := ⟨⟨0, 1, 0, false, true, false, none, [(0, 5)]⟩, 1, 7, .bg, 0, 1⟩

theorem cxReachable : ReachableT cxProgs cxState := runT_reachable .init (Option.some_get cxRuns).symm

theorem cxThread : cxState.s.ths[1]? = some { pc := .done, job := some cxJob } := by decide +kernel

theorem cxEnters : entersOf 1 cxState.tr = [Obs.enter 0 1 7 true, Obs.enter 1 0 5 false] := by decide +kernel

theorem cxAsyncEnters : asyncEntersOf 1 cxState.tr = [Obs.enter 0 1 7 true] := by decide +kernel

end TraceExample

/-- Why `asyncEntersOf` (the `.enter … true` events of a goroutine) and not `entersOf` (all its `.enter` events): while
its handler runs, an async goroutine performs the nested publishes of the handler body and enters their *synchronous*
handlers itself (`Obs.enter … false`).  So with `entersOf`, `async_at_most_once` and `async_exactly_once_when_done` are
FALSE as soon as a handler body is not empty: here is a finished async goroutine whose context is live and which entered
two handlers – its own, asynchronously, and, from within it, a synchronous handler of a nested publish. -/
theorem entersOf_counterexample :
    ∃ (progs : List (List Op)) (x : SysT) (i : Nat) (th : Thread) (j : Job),
      ReachableT progs x ∧ x.s.ths[i]? = some th ∧ th.job = some j ∧ th.pc = .done ∧ x.s.sh.live j.ctx = true ∧
      ¬ (entersOf i x.tr = [] ∨ entersOf i x.tr = [Obs.enter j.reg.rid j.ty j.v true]) ∧
      asyncEntersOf i x.tr = [Obs.enter j.reg.rid j.ty j.v true] := by
  refine ⟨TraceExample.cxProgs, TraceExample.cxState, 1, _, TraceExample.cxJob, TraceExample.cxReachable,
    TraceExample.cxThread, rfl, rfl, rfl, ?_, TraceExample.cxAsyncEnters⟩
  rw [TraceExample.cxEnters]
  decide

end Ebu.Conc
