import Ebu.Proofs.BusEq
/-!
What one call of the bus machine does, said once: the inductive relation `Eff`.  `exec_eff` walks the machine,
`run_eff` a program; a reflexive, transitive relation that holds of each constructor of `Eff` holds of `exec` and
of `run` by induction on `Eff`, without unfolding the model.
-/
namespace Ebu.Bus

/-- events that stand alone: not half of an enter/exit, start/complete or attempt/report pair.  Each module
that reads the trace needs one lemma about them (`BF.simple_tag`, `Obs.simple_notObs`, `Otel.simple_neutral`,
`Persist.simple_okOffsets`); unlike `BF.plain` they include the hooks -/
def simple : Ev → Bool
  | .filt .. | .hook .. | .log .. | .qHas .. | .qCount .. | .qUnsub .. | .deep .. => true
  | _ => false

/-- the background context (root 0) is never cancelled and never handed out as a fresh one -/
def Inv0 (c : Core) : Prop := 0 ∉ c.cancelled ∧ 0 < c.nextCtx

/-- a change of the core, made by a call at depth `d`, that leaves the trace, the span counter and the store
alone: it may create and cancel contexts, park invocations at its own depth or deeper, and only a call inside a
handler changes `panicking` -/
structure Silent (d : Nat) (c c' : Core) : Prop where
  rtrace : c'.rtrace = c.rtrace := by rfl
  nextObs : c'.nextObs = c.nextObs := by rfl
  log : c'.log = c.log := by rfl
  lastOffset : c'.lastOffset = c.lastOffset := by rfl
  appendFaults : c'.appendFaults = c.appendFaults := by rfl
  nextRid : c'.nextRid = c.nextRid := by rfl
  executed : c'.executed = c.executed := by rfl
  inv0 : Inv0 c → Inv0 c' := by exact id
  pending : ∃ p, c'.pending = c.pending ++ p ∧ ∀ q ∈ p, d ≤ q.depth := by
    exact ⟨[], (List.append_nil _).symm, List.forall_mem_nil _⟩
  panicking : d = 0 → c'.panicking = c.panicking := by exact fun _ => rfl

theorem Silent.refl {d : Nat} {c : Core} : Silent d c c := {}

theorem Silent.trace {d : Nat} {c c' : Core} (h : Silent d c c') : c'.trace = c.trace := congrArg List.reverse h.rtrace

theorem Silent.cancel {d : Nat} {c : Core} {k : Nat} (hk : k ≠ 0) :
    Silent d c { c with cancelled := k :: c.cancelled } where
  inv0 h := ⟨fun h0 => (List.mem_cons.1 h0).elim (fun e => hk e.symm) h.1, h.2⟩

section
variable {R : Type}

/-- the effect of a call at depth `d`; `par` is the span under which handler and persist spans opened
directly at depth `d` hang (`none` outside a publish, where only asynchronous invocations open any); only a
top-level `drain` takes parked invocations away (`pop`).  The last index lists the once-handlers claimed and not
yet retired: a turn of a dispatch loop claims (`claim`), the publish retires what its loop claimed (`retire`: from the
list of the published type, where they stood when the loop began), and a whole call leaves none.  `shrink` asks for
the sublists under `I.Lawful` only, so that `exec_eff` needs no lawfulness; `call` lets the invocation sit deeper than
the caller (`d ≤ d'`) for `drain`, which at depth 0 runs an invocation parked at `p.depth` -/
inductive Eff (I : RegImpl R) (cfg : Config) : Nat → Option Nat → St R → St R → List Reg → Prop
  | refl {d par s} : Eff I cfg d par s s []
  | trans {d par s₁ s₂ s₃ cl₁ cl₂} : Eff I cfg d par s₁ s₂ cl₁ → Eff I cfg d par s₂ s₃ cl₂ →
      Eff I cfg d par s₁ s₃ (cl₁ ++ cl₂)
  | emit {d par s} (e : Ev) : e.depth = d → simple e = true → Eff I cfg d par s { s with c := s.c.emit e } []
  | silent {d par s} (c' : Core) : Silent d s.c c' → Eff I cfg d par s { s with c := c' } []
  | subscribe {d par s} (rn : Reg) (ty : Nat) : rn.rid = s.c.nextRid → rn.ty = ty →
      Eff I cfg d par s { reg := I.set s.reg ty (I.get s.reg ty ++ [rn]), c := { s.c with nextRid := s.c.nextRid + 1 } } []
  | shrink {d par s} (reg' : R) : (I.Lawful → ∀ t, (I.get reg' t).Sublist (I.get s.reg t)) →
      Eff I cfg d par s { s with reg := reg' } []
  | persist {d par s} (ty v : Nat) (bad : Bool) (op : Nat) : (∀ p ∈ par, op = p) →
      Eff I cfg d par s { s with c := persist cfg d ty v bad op s.c } []
  | call {d d' par s s'} (r : Reg) (ty v root op : Nat) (async : Bool) : d ≤ d' →
      (d' = d → async = false → ∀ p ∈ par, op = p) →
      Eff I cfg (d' + 1) none (entered r ty v root d' async (openSpan cfg d' .hs op ty async s)) s' [] →
      Eff I cfg d par s (chPost cfg r ty v d' s.c.nextObs s') []
  | publish {d s s'} (ty p : Nat) :
      Eff I cfg d (some (if cfg.obs then s.c.nextObs else p)) (openSpan cfg d .ps p ty false s) s' [] →
      Eff I cfg d none s (closeSpan cfg d .pc s.c.nextObs ty false s') []
  | pop {s} (p : Pending) (ps : List Pending) : s.c.pending = p :: ps →
      Eff I cfg 0 none s { s with c := { s.c with pending := ps } } []
  | claim {d par s} (r : Reg) :
      Eff I cfg d par s { s with c := { s.c with executed := r.rid :: s.c.executed } } [r]
  | retire {d par s s' cl} (ty : Nat) : Eff I cfg d par s s' cl → (∀ c ∈ cl, c ∈ I.get s.reg ty) →
      Eff I cfg d par s { s' with reg := I.set s'.reg ty (retire cl (I.get s'.reg ty)) } []

variable {I : RegImpl R} {cfg : Config} {rec : Frame → St R → Action → St R}

theorem Eff.emitIf {d par} {s : St R} (b : Bool) (e : Ev) (hd : e.depth = d) (he : simple e = true) :
    Eff I cfg d par s { s with c := emitIf b s.c e } [] := by
  cases b
  · exact .refl
  · exact .emit e hd he

theorem Eff.setSub {d par} {s : St R} (ty : Nat) {l : List Reg} (hl : l.Sublist (I.get s.reg ty)) :
    Eff I cfg d par s { s with reg := I.set s.reg ty l } [] :=
  .shrink _ fun hI => get_set_sublist hI hl

def RecEff (I : RegImpl R) (cfg : Config) (rec : Frame → St R → Action → St R) : Prop :=
  ∀ fr s a, Eff I cfg fr.depth none s (rec fr s a) []

theorem runBody_eff (h : RecEff I cfg rec) (fr : Frame) (acts : List Action) (s : St R) :
    Eff I cfg fr.depth none s (runBody rec fr s acts) [] := by
  induction acts generalizing s with
  | nil => exact .refl
  | cons a as ih =>
    simp only [runBody, List.foldl_cons]
    split
    · exact ih _
    · exact (h fr s a).trans (ih _)

theorem bodyResult_eff (h : RecEff I cfg rec) (r : Reg) (ty v root op d : Nat) (async : Bool) (s : St R) :
    Eff I cfg (d + 1) none (entered r ty v root d async (openSpan cfg d .hs op ty async s))
      (bodyResult cfg rec r ty v root op d async s) [] :=
  runBody_eff h ⟨d + 1, root, _, r.ctxAware⟩ _ _

theorem callHandler_eff (h : RecEff I cfg rec) {d d' : Nat} {par : Option Nat} (r : Reg) (ty v root op : Nat)
    (async : Bool) (s : St R) (hd : d ≤ d') (hp : d' = d → async = false → ∀ p ∈ par, op = p) :
    Eff I cfg d par s (callHandler cfg rec r ty v root op d' async s) [] := by
  rw [callHandler_eq]
  exact .call r ty v root op async hd hp (bodyResult_eff h ..)

theorem dFilt_eff {par : Option Nat} (d v root : Nat) (r : Reg) (s : St R) :
    Eff I cfg d par s (dFilt d v root r s) [] := by
  have h1 : Eff I cfg d par s (match r.filt with
      | some _ => { s with c := s.c.emit (.filt d r.rid v (r.accepts v)) }
      | none => s) [] := by
    split
    · exact .emit _ rfl rfl
    · exact .refl
  have h2 : ∀ s1 : St R, Eff I cfg d par s1 (if r.filt.isSome && r.filtCancels then cancelRoot root s1 else s1) [] := by
    intro s1
    unfold cancelRoot
    split
    · split
      · exact .refl
      · rename_i h0; exact .silent _ (.cancel h0)
    · exact .refl
  exact h1.trans (h2 _)

theorem dClaim_eff {d : Nat} {par : Option Nat} (r : Reg) (s : St R) :
    Eff I cfg d par s (dClaim r s) (dClaimed r []) := by
  unfold dClaim dClaimed
  split
  · exact .claim r
  · exact .refl

theorem deliver_eff (h : RecEff I cfg rec) (ty v root obs d : Nat) (s : St R) (claimed : List Reg) (r : Reg) :
    ∃ cl, (deliver cfg rec ty v root obs d (s, claimed) r).2 = claimed ++ cl ∧ (∀ c ∈ cl, c = r) ∧
      Eff I cfg d (some obs) s (deliver cfg rec ty v root obs d (s, claimed) r).1 cl := by
  have hC : Eff I cfg d (some obs) s (dClaim r (dFilt d v root r s)) (dClaimed r []) :=
    (dFilt_eff d v root r s).trans (dClaim_eff r _)
  -- `++ []`: the claims of `hC.trans _` below, whose second part claims nothing
  have hcl : dClaimed r claimed = claimed ++ (dClaimed r [] ++ []) ∧ ∀ c ∈ dClaimed r [] ++ [], c = r := by
    unfold dClaimed; split <;> simp
  rw [deliver_cases]
  by_cases hs : skips r v root s.c
  · rw [if_pos hs]; exact ⟨[], (List.append_nil _).symm, List.forall_mem_nil _, dFilt_eff d v root r s⟩
  · by_cases ha : r.async = true
    · rw [if_neg hs, if_pos ha]
      exact ⟨_, hcl.1, hcl.2, hC.trans (.silent _
        { pending := ⟨[_], rfl, fun q hq => Nat.le_of_eq (List.mem_singleton.1 hq ▸ rfl)⟩ })⟩
    · rw [if_neg hs, if_neg ha]
      exact ⟨_, hcl.1, hcl.2,
        hC.trans (callHandler_eff h r ty v root obs false _ (Nat.le_refl _) fun _ _ p hp => Option.mem_some_iff.1 hp)⟩

theorem loop_eff (h : RecEff I cfg rec) (ty v root obs d : Nat) (l : List Reg) (acc : St R × List Reg) :
    ∃ cl, (l.foldl (deliver cfg rec ty v root obs d) acc).2 = acc.2 ++ cl ∧ (∀ c ∈ cl, c ∈ l) ∧
      Eff I cfg d (some obs) acc.1 (l.foldl (deliver cfg rec ty v root obs d) acc).1 cl := by
  induction l generalizing acc with
  | nil => exact ⟨[], (List.append_nil _).symm, List.forall_mem_nil _, .refl⟩
  | cons r l ih =>
    obtain ⟨c1, e1, m1, h1⟩ := deliver_eff h ty v root obs d acc.1 acc.2 r
    obtain ⟨c2, e2, m2, h2⟩ := ih (deliver cfg rec ty v root obs d acc r)
    exact ⟨c1 ++ c2, by rw [List.foldl_cons, e2, e1, List.append_assoc], fun c hc => (List.mem_append.1 hc).elim
      (fun hc => m1 c hc ▸ List.mem_cons_self) fun hc => List.mem_cons_of_mem _ (m2 c hc), h1.trans h2⟩

theorem pubCtx_silent (fr : Frame) (sel : CtxSel) (s : St R) :
    (pubCtx fr sel s).2.2.reg = s.reg ∧ Silent fr.depth s.c (pubCtx fr sel s).2.2.c := by
  cases sel
  · exact ⟨rfl, .refl⟩
  · exact ⟨rfl, { inv0 := fun h => ⟨h.1, Nat.lt_succ_of_lt h.2⟩ }⟩
  · exact ⟨rfl, { inv0 := fun h =>
      ⟨fun h0 => (List.mem_cons.1 h0).elim (fun e => Nat.lt_irrefl 0 (e ▸ h.2)) h.1, Nat.lt_succ_of_lt h.2⟩ }⟩
  · obtain ⟨d0, root0, obs0, ca⟩ := fr
    cases ca <;> exact ⟨rfl, .refl⟩

theorem pubBefore_eff (d ty v : Nat) (bad : Bool) (obs : Nat) (s : St R) :
    Eff I cfg d (some obs) s (pubBefore cfg d ty v bad obs s) [] :=
  .trans (.trans (.emitIf cfg.hookBL (.hook d .bl ty v) rfl rfl) (.emitIf cfg.hookBC (.hook d .bc ty v) rfl rfl))
    (.persist ty v bad obs fun _ hp => Option.mem_some_iff.1 hp)

theorem pubAfter_eff {par : Option Nat} {s s₁ : St R} {cl : List Reg} (d ty v : Nat) (h : Eff I cfg d par s s₁ cl)
    (hm : ∀ c ∈ cl, c ∈ I.get s.reg ty) : Eff I cfg d par s (pubAfter I cfg d ty v (s₁, cl)) [] := by
  refine .trans (cl₁ := []) (s₂ := if cl.isEmpty then s₁ else { s₁ with reg := I.set s₁.reg ty (retire cl (I.get s₁.reg ty)) })
    ?_ (.trans (.emitIf cfg.hookAL (.hook d .al ty v) rfl rfl) (.emitIf cfg.hookAC (.hook d .ac ty v) rfl rfl))
  cases cl with
  | nil => exact h
  | cons c cs => exact .retire ty h hm

theorem pubCtx_eff {par : Option Nat} (fr : Frame) (sel : CtxSel) (s : St R) :
    Eff I cfg fr.depth par s (pubCtx fr sel s).2.2 [] := by
  obtain ⟨hr, hs⟩ := pubCtx_silent fr sel s
  generalize (pubCtx fr sel s).2.2 = t at hr hs
  obtain ⟨r0, c0⟩ := t
  subst hr
  exact .silent c0 hs

theorem pubLoop_eff (h : RecEff I cfg rec) (fr : Frame) (ty v : Nat) (bad : Bool) (sel : CtxSel) (s : St R) :
    Eff I cfg fr.depth (some (pubObs cfg fr sel s)) (pubSnap cfg fr ty v bad sel s)
      (pubLoop I cfg rec fr ty v bad sel s).1 (pubLoop I cfg rec fr ty v bad sel s).2 ∧
    ∀ c ∈ (pubLoop I cfg rec fr ty v bad sel s).2, c ∈ I.get (pubSnap cfg fr ty v bad sel s).reg ty := by
  obtain ⟨cl, e, m, hl⟩ := loop_eff h ty v (pubCtx fr sel s).1 (pubObs cfg fr sel s) fr.depth
    (I.get (pubSnap cfg fr ty v bad sel s).reg ty) (pubSnap cfg fr ty v bad sel s, [])
  have e : (pubLoop I cfg rec fr ty v bad sel s).2 = cl := e
  rw [e]
  exact ⟨hl, m⟩

theorem pubSpan_eff (h : RecEff I cfg rec) (fr : Frame) (ty v : Nat) (bad : Bool) (sel : CtxSel) (s : St R) :
    Eff I cfg fr.depth (some (pubObs cfg fr sel s))
      (openSpan cfg fr.depth .ps (pubCtx fr sel s).2.1 ty false (pubCtx fr sel s).2.2)
      (pubAfter I cfg fr.depth ty v (pubLoop I cfg rec fr ty v bad sel s)) [] :=
  .trans (pubBefore_eff ..) (pubAfter_eff _ _ _ (pubLoop_eff h ..).1 (pubLoop_eff h ..).2)

theorem publish_eff (h : RecEff I cfg rec) (fr : Frame) (ty v : Nat) (bad : Bool) (sel : CtxSel)
    (s : St R) : Eff I cfg fr.depth none s (publish I cfg rec fr ty v bad sel s) [] :=
  (pubCtx_eff fr sel s).trans (.publish ty (pubCtx fr sel s).2.1 (pubSpan_eff h fr ty v bad sel s))

theorem step_eff (h : RecEff I cfg rec) : RecEff I cfg (step I cfg rec) := by
  intro fr s a
  cases a with
  | subscribe ty hid once async seq filt body fc => exact .subscribe _ ty rfl rfl
  | unsubscribe ty hid =>
    simp only [step]
    split
    · exact .trans (.emit (.qUnsub fr.depth ty hid true) rfl rfl) (.setSub ty (eraseFirst_sublist _ _))
    · exact .emit _ rfl rfl
  | clear ty => exact .setSub ty (List.nil_sublist _)
  | clearAll => exact .shrink _ fun hI t => by rw [hI.get_clearAll]; exact List.nil_sublist _
  | publish ty v bad sel =>
    simp only [step]
    split
    · exact .emit _ rfl rfl
    · exact publish_eff h fr ty v bad sel s
  | cancel =>
    simp only [step]
    split
    · exact .refl
    · rename_i hk; exact .silent _ (.cancel hk)
  | cancelId k =>
    simp only [step]
    split
    · exact .refl
    · rename_i hk; exact .silent _ (.cancel fun h0 => hk (Or.inl h0))
  | panic val =>
    simp only [step]
    split
    · exact .refl
    · rename_i hd
      exact .silent _ { panicking := fun h0 => absurd h0 hd }
  | has ty => exact .emit _ rfl rfl
  | count ty => exact .emit _ rfl rfl
  | readLog => exact .emit _ rfl rfl
  | drain =>
    obtain ⟨d, root, obs, ca⟩ := fr
    simp only [step]
    split
    · exact .refl
    · rename_i hd
      have hd : d = 0 := by simpa using hd
      subst hd
      split
      · exact .refl
      · rename_i p ps hp
        refine .trans (.trans (cl₂ := []) (.pop p ps hp) ?_) (h ⟨0, root, obs, ca⟩ _ .drain)
        unfold runPending
        split
        · exact .refl
        · exact callHandler_eff h _ _ _ _ _ true _ (Nat.zero_le _) (fun _ hf => by cases hf)

theorem exec_eff (I : RegImpl R) (cfg : Config) (n : Nat) : RecEff I cfg (exec I cfg n) := by
  induction n with
  | zero => intro fr s a; exact .silent _ {}
  | succ n ih => exact step_eff ih

theorem run_eff (I : RegImpl R) (cfg : Config) (fuel : Nat) (faults : List Bool) (prog : List Action) :
    Eff I cfg 0 none (initSt I faults) (run I cfg fuel faults prog) [] :=
  List.foldlRecOn prog _ (motive := (Eff I cfg 0 none (initSt I faults) · [])) .refl
    fun s hs a _ => hs.trans (exec_eff I cfg fuel {} s a)

end
end Ebu.Bus
