import Ebu.Proofs.BusObs
/-!
What an OpenTelemetry-style implementation of the observability callbacks accumulates
(C20, second half): spans ended exactly once, truthful counters.  A balanced trace completes a permutation of
the spans it starts (`stack_perm`); the counting equalities `Good` hold of what any call appends (`Eff.gext`).
-/
namespace Ebu.Bus

namespace Otel
open Obs

theorem stack_perm (l : List Ev) (st st' : List Nat) (h : obsStack l st = some st') :
    (obsCompletes l ++ st').Perm (obsStarts l ++ st) := by
  induction l generalizing st with
  | nil => cases h; exact .refl _
  | cons e l ih =>
    cases e with
    | obs d k i p ty f =>
      cases k
      case ps | hs | rs => exact (ih _ h).trans List.perm_middle
      all_goals
        cases st with
        | nil => simp [obsStack] at h
        | cons top st'' =>
          simp only [obsStack] at h
          split at h
          · rename_i ht; subst ht
            exact ((ih _ h).cons _).trans List.perm_middle.symm
          · cases h
    | _ => exact ih _ h

/- `pPs` … `pAppF` are word for word the predicates inside `otelSummary` and `trueCounts`, so that `counters_truthful`
closes by unfolding; hence `pEnter` beside `isEnter`. -/
def pPs : Ev → Bool := fun e => match e with | .obs _ .ps .. => true | _ => false
def pHs : Ev → Bool := fun e => match e with | .obs _ .hs .. => true | _ => false
def pHcT : Ev → Bool := fun e => match e with | .obs _ .hc _ _ _ true => true | _ => false
def pRs : Ev → Bool := fun e => match e with | .obs _ .rs .. => true | _ => false
def pRcT : Ev → Bool := fun e => match e with | .obs _ .rc _ _ _ true => true | _ => false
def pEnter : Ev → Bool := fun e => match e with | .enter .. => true | _ => false
def pPanich : Ev → Bool := fun e => match e with | .panich .. => true | _ => false
def pAppF : Ev → Bool := fun e => match e with | .append _ _ _ _ false _ => true | _ => false

theorem starts_length (l : List Ev) :
    (obsStarts l).length = l.countP pPs + l.countP pHs + l.countP pRs := by
  induction l with
  | nil => rfl
  | cons e l ih =>
    have he : (obsStarts [e]).length = [e].countP pPs + [e].countP pHs + [e].countP pRs := by
      cases e with
      | obs d k => cases k <;> rfl
      | _ => rfl
    rw [← List.singleton_append, obsStarts_append, List.length_append, ih, he]
    simp only [List.countP_append]
    omega

/-- events that take part in none of the counting equalities -/
def neutral : Ev → Bool
  | .obs _ .ps .. => true
  | .obs _ .pc .. => true
  | .obs .. => false
  | .enter .. => false
  | .panich .. => false
  | .append .. => false
  | _ => true

/-- the counting invariant of a trace segment (when an Observability is installed) -/
def Good (cfg : Config) (l : List Ev) : Prop :=
  cfg.obs = true →
    l.countP pHs = l.countP pEnter ∧ l.countP pRs = l.countP isAppend ∧
    l.countP pRcT = l.countP pAppF ∧ (cfg.panicH = true → l.countP pHcT = l.countP pPanich)

theorem Good.nil {cfg} : Good cfg [] := by
  intro _; simp

theorem Good.append {cfg l₁ l₂} (h₁ : Good cfg l₁) (h₂ : Good cfg l₂) : Good cfg (l₁ ++ l₂) := by
  intro ho
  obtain ⟨a1, b1, c1, d1⟩ := h₁ ho
  obtain ⟨a2, b2, c2, d2⟩ := h₂ ho
  simp only [List.countP_append]
  refine ⟨by omega, by omega, by omega, fun hp => ?_⟩
  have := d1 hp; have := d2 hp; omega

theorem Good.single {cfg} (e : Ev) (h : neutral e = true) : Good cfg [e] := by
  intro _
  cases e with
  | obs d k i p ty f => cases k <;> simp_all [neutral, pHs, pEnter, pRs, isAppend, pRcT, pAppF, pHcT, pPanich]
  | _ => simp_all [neutral, pHs, pEnter, pRs, isAppend, pRcT, pAppF, pHcT, pPanich]

theorem Good.optSingle {cfg} (b : Bool) (e : Ev) (h : neutral e = true) :
    Good cfg (if b then [e] else []) := by
  cases b
  · exact Good.nil
  · exact Good.single e h

def GExt (cfg : Config) (c c' : Core) : Prop := ∃ l, c'.trace = c.trace ++ l ∧ Good cfg l

theorem GExt.of_eq {cfg} {c c' : Core} (ht : c'.trace = c.trace) : GExt cfg c c' :=
  ⟨[], by simp [ht], Good.nil⟩

theorem GExt.refl {cfg} {c : Core} : GExt cfg c c := GExt.of_eq rfl

theorem GExt.trans {cfg} {c₁ c₂ c₃ : Core} (h₁ : GExt cfg c₁ c₂) (h₂ : GExt cfg c₂ c₃) :
    GExt cfg c₁ c₃ := by
  obtain ⟨l₁, e₁, s₁⟩ := h₁
  obtain ⟨l₂, e₂, s₂⟩ := h₂
  exact ⟨l₁ ++ l₂, by rw [e₂, e₁, List.append_assoc], s₁.append s₂⟩

theorem GExt.emit {cfg} (c : Core) (e : Ev) (hn : neutral e = true) : GExt cfg c (c.emit e) :=
  ⟨[e], Core.trace_emit c e, Good.single e hn⟩

theorem persist_gext (cfg : Config) (d ty v : Nat) (bad : Bool) (obsParent : Nat) (c : Core) :
    GExt cfg c (persist cfg d ty v bad obsParent c) := by
  refine ⟨_, persist_trace .., ?_⟩
  unfold persistEvs appendEvs
  split
  · exact .nil
  · cases bad
    · -- the attempt with its two callbacks is counted together; the report of a failure counts for nothing
      refine .append (fun ho => ?_) (.optSingle _ _ rfl)
      cases c.appendFaults.headD false <;>
        simp [ho, List.countP_cons, pHs, pEnter, pRs, isAppend, pRcT, pAppF, pHcT, pPanich]
    · exact .optSingle _ _ rfl

theorem simple_neutral {e : Ev} (h : simple e = true) : neutral e = true := by
  cases e <;> first | rfl | cases h

theorem enter_good {cfg : Config} (d i op ty : Nat) (async : Bool) (rid v : Nat) (ctx : Option Nat) :
    Good cfg ((if cfg.obs then [Ev.obs d .hs i op ty async] else []) ++ [Ev.enter (d + 1) rid ty v ctx async]) := by
  intro ho
  simp [ho, List.countP_cons, pHs, pEnter, pRs, isAppend, pRcT, pAppF, pHcT, pPanich]

theorem exit_good {cfg : Config} (r : Reg) (d ty v i : Nat) (pv : Option Nat) :
    Good cfg (Ev.exit (d + 1) r.rid :: panichEvs cfg r ty v d pv ++
      (if cfg.obs then [Ev.obs d .hc i 0 ty pv.isSome] else [])) := by
  intro ho
  cases pv <;> cases hp : cfg.panicH <;>
    simp [panichEvs, ho, hp, List.countP_cons, pHs, pEnter, pRs, isAppend, pRcT, pAppF, pHcT, pPanich]

theorem _root_.Ebu.Bus.Eff.gext {R : Type} {I : RegImpl R} {cfg : Config} {d : Nat} {par : Option Nat} {s s' : St R}
    {cl : List Reg} (h : Eff I cfg d par s s' cl) : GExt cfg s.c s'.c := by
  induction h with
  | refl => exact .refl
  | trans _ _ ih₁ ih₂ => exact ih₁.trans ih₂
  | emit e _ he => exact .emit _ e (simple_neutral he)
  | silent c' hs => exact .of_eq hs.trace
  | subscribe => exact .of_eq rfl
  | shrink => exact .refl
  | persist ty v bad op => exact persist_gext cfg _ ty v bad op _
  | @call d d' par s s' r ty v root op async _ _ _ ih =>
    -- handler start with enter, and exit with panic report and handler complete, are counted together
    obtain ⟨l, hl, hg⟩ := ih
    refine ⟨_, ?_, (enter_good d' s.c.nextObs op ty async r.rid v (if r.ctxAware then some root else none)).append
      (hg.append (exit_good r d' ty v s.c.nextObs s'.c.panicking))⟩
    rw [chPost_trace, hl, entered_trace, openSpan_trace]
    simp only [List.append_assoc]
  | @publish d s s' ty p _ ih =>
    exact .trans (.trans ⟨_, openSpan_trace .., .optSingle _ _ rfl⟩ ih) ⟨_, BF.emitIf_trace .., .optSingle _ _ rfl⟩
  | pop => exact .of_eq rfl
  | claim => exact .of_eq rfl
  | retire _ _ _ ih => exact ih

theorem run_good {R : Type} (I : RegImpl R) (cfg : Config) (fuel : Nat) (faults : List Bool)
    (prog : List Action) : Good cfg (run I cfg fuel faults prog).c.trace := by
  obtain ⟨l, hl, hs⟩ := (run_eff I cfg fuel faults prog).gext
  rw [show (initSt I faults).c.trace = [] from rfl, List.nil_append] at hl
  subst hl
  exact hs

end Otel

open Otel

theorem balanced_fresh_ended_once (l : List Ev) (hb : obsStack l [] = some []) (hn : (obsStarts l).Nodup) (id : Nat) :
    (obsCompletes l).count id = (obsStarts l).count id ∧ (obsStarts l).count id ≤ 1 := by
  refine ⟨?_, List.nodup_iff_count.1 hn id⟩
  simpa using (stack_perm l [] [] hb).count_eq id

/-- in every run each span that is started is ended exactly once -/
theorem spans_ended_exactly_once {R : Type} (I : RegImpl R) (cfg : Config) (fuel : Nat) (faults : List Bool)
    (prog : List Action) (id : Nat) :
    let tr := (run I cfg fuel faults prog).c.trace
    (obsCompletes tr).count id = (obsStarts tr).count id ∧ (obsStarts tr).count id ≤ 1 :=
  balanced_fresh_ended_once _ (obs_balanced_run I cfg fuel faults prog) (obs_ids_fresh I cfg fuel faults prog) id

/-- with an Observability installed the counters equal the true numbers: handler runs = handler
invocations, persist attempts = append attempts, persist failures = failed appends, and – when a
panic handler is installed, which makes panics visible in the trace – handler errors = panics;
started spans = ended spans -/
theorem counters_truthful {R : Type} (I : RegImpl R) (cfg : Config) (fuel : Nat) (faults : List Bool)
    (prog : List Action) (hobs : cfg.obs = true) :
    let tr := (run I cfg fuel faults prog).c.trace
    let s := otelSummary tr
    s.started = s.ended ∧ s.handlerRuns = (trueCounts tr).1 ∧ s.persistAttempts = (trueCounts tr).2.2.1 ∧
    s.persistErrors = (trueCounts tr).2.2.2 ∧ (cfg.panicH = true → s.handlerErrors = (trueCounts tr).2.1) ∧
    s.started = s.publishes + s.handlerRuns + s.persistAttempts := by
  intro tr s
  obtain ⟨a, b, c, d⟩ := run_good I cfg fuel faults prog hobs
  have hl := (stack_perm tr [] [] (obs_balanced_run I cfg fuel faults prog)).length_eq
  simp only [List.append_nil] at hl
  exact ⟨hl.symm, a, b, c, d, starts_length tr⟩

end Ebu.Bus
