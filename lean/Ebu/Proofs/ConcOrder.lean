import Ebu.Spec.ConcOrder
import Ebu.Proofs.Conc
import Ebu.Proofs.ConcTrace
/-!
Async+Sequential deliveries in the interleaving model M2 happen in ticket order (C07).

The goroutine of an Async+Sequential delivery carries the ticket its publisher took at dispatch.  It waits at
"async.turn" until the ticket is the one being served, takes its turn (the ghost list `turns` records it), locks,
enters the handler, and passes the turn on when the handler returns (or at once, when its context is dead).  So the
tickets of the entries made so far are a subsequence of the turns taken so far (`entries_sublist_turns`, with `OrdInv`
as the invariant behind it), and turns are taken in ticket order (`TkX.turns`).
-/
namespace Ebu.Conc
namespace Inv

theorem prog_le_one (rid : Nat) (th : Thread) : prog rid th ≤ 1 := by
  unfold prog
  split
  · split <;> omega
  · omega

theorem StepR.asyncEntry {sh th o} (h : StepR sh th o) (ha : asyncAt sh th = true) {r : Reg} (hpc : o.th.pc = .enter r) :
    (∃ j, th.job = some j ∧ j.reg = r ∧ r.seq = false) ∨ th.pc = .lock r true := by
  cases h
  case astartRun j _ hj hs _ => cases hpc; exact .inl ⟨j, hj, rfl, hs⟩
  case lock r' a f fs hpc' hfr _ _ =>
    cases hpc
    simp only [asyncAt, hpc', hfr, Bool.and_eq_true] at ha
    exact .inr (ha.1 ▸ hpc')
  case astartSeq | astartDead => cases hpc
  all_goals simp [asyncAt, *] at ha

theorem TkEff.turns_sublist {sh th o rid} (h : TkEff sh th o rid) :
    (ticketsOf rid sh.turns).Sublist (ticketsOf rid o.sh.turns) := by
  obtain ⟨_, _, _, _, _, _, _, hU, _, _⟩ := h
  rw [hU]; exact List.sublist_append_left _ _

/-- what one event of the trace contributes to `asyncEntryTickets` -/
def pick (rid : Nat) (tk : Nat → Option Nat) (p : Nat × Obs) : Option Nat :=
  match p.2 with
  | .enter r _ _ true => if r == rid then tk p.1 else none
  | _ => none

theorem asyncEntryTickets_eq (x : SysT) (rid : Nat) :
    asyncEntryTickets x rid = x.tr.filterMap (pick rid (ticketOf x.s)) := rfl

theorem step_picks {sh th o} (hs : step sh th = some o) (rid : Nat) (tk : Nat → Option Nat) (i : Nat) :
    (o.obs.map (fun e => (i, e))).filterMap (pick rid tk) = [] ∨
    asyncAt sh th = true ∧ ∃ r, o.th.pc = .enter r ∧ r.rid = rid ∧
      (o.obs.map (fun e => (i, e))).filterMap (pick rid tk) = (tk i).toList := by
  have h0 : ((result sh th).map (fun e => (i, e))).filterMap (pick rid tk) = [] := by
    unfold result; split <;> rfl
  rw [step_says hs, List.map_append, List.filterMap_append, h0, List.nil_append]
  unfold announce
  split
  case h_2 r f _ hpc _ =>
    cases asyncAt sh th
    · exact .inl rfl
    · by_cases hr : r.rid = rid
      · exact .inr ⟨rfl, r, hpc, hr, by cases h : tk i <;> simp [pick, hr, h]⟩
      · exact .inl (by simp [pick, hr])
  all_goals exact .inl rfl

theorem filterMap_congr' {α β : Type} {f g : α → Option β} {l : List α} (h : ∀ x ∈ l, f x = g x) :
    l.filterMap f = l.filterMap g := by
  induction l with
  | nil => rfl
  | cons a as ih =>
    rw [List.filterMap_cons, List.filterMap_cons, h a (by simp), ih (fun x hx => h x (by simp [hx]))]

theorem ticketOf_step {sh sh' : Shared} {ths : List Thread} {i k : Nat} {th th' : Thread} (new : List Thread)
    (hth : ths[i]? = some th) (hjob : th'.job = th.job) (hk : k < ths.length) :
    ticketOf ⟨sh', ths.set i th' ++ new⟩ k = ticketOf ⟨sh, ths⟩ k := by
  obtain ⟨t', e, ej⟩ := getElem?_step_job new hth hjob (List.getElem?_eq_getElem hk)
  simp only [ticketOf, e, List.getElem?_eq_getElem hk, Option.bind_some, ej]

theorem seqJobs_step {sh sh' : Shared} {ths : List Thread} {i : Nat} {th th' : Thread} (new : List Thread)
    (hth : ths[i]? = some th) (hjob : th'.job = th.job) (rid : Nat)
    (h : SeqJobs ⟨sh', ths.set i th' ++ new⟩ rid) : SeqJobs ⟨sh, ths⟩ rid := by
  intro t ht j hj hr
  obtain ⟨k, hk⟩ := List.getElem?_of_mem ht
  obtain ⟨t', e, ej⟩ := getElem?_step_job new hth hjob hk
  exact h t' (List.mem_of_getElem? e) j (ej.trans hj) hr

/-- one step appends at most one ticket to the entries of `rid`: that of the goroutine leaving "handler.lock" -/
theorem entryTickets_step {progs : List (List Op)} {x : SysT} {i : Nat} {th : Thread} {o : Out} (hrT : ReachableT progs x)
    (hth : x.s.ths[i]? = some th) (hs : step x.s.sh th = some o) (rid : Nat) (hseq : SeqJobs x.s rid) :
    let x' : SysT := { s := { sh := o.sh, ths := x.s.ths.set i o.th ++ o.new }, tr := x.tr ++ o.obs.map (fun e => (i, e)) }
    asyncEntryTickets x' rid = asyncEntryTickets x rid ∨
    ∃ r j, th.pc = .lock r true ∧ r.rid = rid ∧ th.job = some j ∧ o.th.pc = .enter r ∧
      asyncEntryTickets x' rid = asyncEntryTickets x rid ++ [j.ticket] := by
  intro x'
  have hR := stepR_of_step hs
  have hi : i < x.s.ths.length := (List.getElem?_eq_some_iff.1 hth).1
  -- the events of the trace so far are read with the same tickets as before
  have hsplit : asyncEntryTickets x' rid = asyncEntryTickets x rid ++
      (o.obs.map (fun e => (i, e))).filterMap (pick rid (ticketOf x'.s)) := by
    rw [asyncEntryTickets_eq, List.filterMap_append, asyncEntryTickets_eq]
    congr 1
    exact filterMap_congr' fun p hp => by
      unfold pick; rw [ticketOf_step _ hth hR.job ((trInv_reachable x hrT).1 p hp)]
  rcases step_picks hs rid (ticketOf x'.s) i with h0 | ⟨ha, r, hpc', hrid, h1⟩
  · exact .inl (by rw [hsplit, h0, List.append_nil])
  · rcases hR.asyncEntry ha hpc' with ⟨j, hj, rfl, hns⟩ | hpc
    · rw [hseq th (List.mem_of_getElem? hth) j hj hrid] at hns; cases hns
    · obtain ⟨_, j, hj, _⟩ := (thOK_reachable x.s (reachableT_reachable hrT) th (List.mem_of_getElem? hth)).lockT hpc
      have htk : ticketOf x'.s i = some j.ticket := by
        simp [x', ticketOf, List.getElem?_append_left, hi, hR.job, hj]
      exact .inr ⟨r, j, hpc, hrid, hj, hpc', by rw [hsplit, h1, htk]; rfl⟩

/-- the tickets of the asynchronous entries of `rid` are a subsequence of the turns taken – and still so together with
the ticket of a goroutine that has taken its turn and is parked at "handler.lock" -/
structure OrdInv (x : SysT) (rid : Nat) : Prop where
  sub : (asyncEntryTickets x rid).Sublist (ticketsOf rid x.s.sh.turns)
  lock : ∀ (k : Nat) (th : Thread) (r : Reg) (j : Job), x.s.ths[k]? = some th → th.pc = .lock r true → r.rid = rid →
    th.job = some j → (asyncEntryTickets x rid ++ [j.ticket]).Sublist (ticketsOf rid x.s.sh.turns)

theorem ordInv_reachable {progs : List (List Op)} :
    ∀ x, ReachableT progs x → ∀ rid, SeqJobs x.s rid → OrdInv x rid := by
  apply reachT_ind
  · intro rid _
    refine ⟨List.nil_sublist _, fun k th r j hk hpc => ?_⟩
    obtain ⟨p, _, rfl⟩ := mem_initSys (List.mem_of_getElem? hk)
    cases hpc
  · intro x i th o hrT hr hI hth hs hR rid hseq'
    have hok := thOK_reachable x.s hr th (List.mem_of_getElem? hth)
    have hseq : SeqJobs x.s rid := seqJobs_step o.new hth hR.job rid hseq'
    obtain ⟨iA, iB⟩ := hI rid hseq
    have hT := (hR.tk hok rid).turns_sublist
    rcases entryTickets_step hrT hth hs rid hseq with hL | ⟨r, j, hpc, hrid, hj, hpc', hL⟩
    · refine ⟨by rw [hL]; exact iA.trans hT, fun k t r' j' hk hpc' hrid' hj' => ?_⟩
      rw [hL]
      rcases hR.thread_cases hk with ⟨_, hk⟩ | ⟨_, rfl⟩ | hn
      · exact (iB k t r' j' hk hpc' hrid' hj').trans hT
      · -- the goroutine has just taken its turn, and `turns` has its ticket at the end
        obtain ⟨j, hj, rfl, e⟩ := hR.arrive_async.2 _ hpc'
        rw [hR.job, hj] at hj'
        cases hj'
        simp only [e, ticketsOf_append, if_pos hrid']
        exact iA.append (.refl _)
      · obtain ⟨_, _, rfl⟩ := hn; cases hpc'
    · -- the goroutine in its turn enters the handler
      refine ⟨by rw [hL]; exact (iB i th r j hth hpc hrid hj).trans hT, fun k t r' j' hk hpc'' hrid' hj' => ?_⟩
      exfalso
      rcases hR.thread_cases hk with ⟨hki, hk⟩ | ⟨_, rfl⟩ | hn
      · -- nobody else is in its turn
        have := wsum_two_idx (prog rid) hki hk hth
        have := hrid' ▸ prog_lockT (thOK_reachable x.s hr t (List.mem_of_getElem? hk)) hpc''
        have := hrid ▸ prog_lockT hok hpc
        have := (tkX_reachable x.s hr rid).one
        omega
      · rw [hpc'] at hpc''; cases hpc''
      · obtain ⟨_, _, rfl⟩ := hn; cases hpc''

/-- every asynchronous entry of a Sequential registration was made in a turn -/
theorem entries_sublist_turns {progs : List (List Op)} {x : SysT} (h : ReachableT progs x) (rid : Nat)
    (hseq : SeqJobs x.s rid) : (asyncEntryTickets x rid).Sublist (ticketsOf rid x.s.sh.turns) :=
  (ordInv_reachable x h rid hseq).sub

end Inv

open Ebu.Conc.Inv

/-- Async+Sequential: the handler is entered in ticket order – the tickets of its asynchronous entries, in the order
in which they happened, are strictly increasing (with `tickets_in_dispatch_order`: events are processed in the order in
which they were dispatched; cancelled ones are skipped, none overtakes) -/
theorem async_seq_entries_in_ticket_order {progs : List (List Op)} {x : SysT} (h : ReachableT progs x) (rid : Nat)
    (hseq : SeqJobs x.s rid) : (asyncEntryTickets x rid).Pairwise (· < ·) := by
  have := entries_sublist_turns h rid hseq
  rw [(tkX_reachable x.s (reachableT_reachable h) rid).turns] at this
  exact List.pairwise_lt_range.sublist this

/-- Async+Sequential: every ticket that has been entered is below the ticket being served next -/
theorem async_seq_entries_below_serving {progs : List (List Op)} {x : SysT} (h : ReachableT progs x) (rid : Nat)
    (hseq : SeqJobs x.s rid) : ∀ t ∈ asyncEntryTickets x rid, t < lookupD x.s.sh.serving rid + 1 := by
  intro t ht
  have hx := tkX_reachable x.s (reachableT_reachable h) rid
  have := (entries_sublist_turns h rid hseq).subset ht
  rw [hx.turns, List.mem_range] at this
  have := hx.one
  omega

/-! ### the hypotheses are satisfiable: two publishes to an Async+Sequential handler, delivered in ticket order -/

namespace OrderExample
open TraceExample

/-- one Async+Sequential handler on type 0, two publishes -/
def ordProgs : List (List Op) :=
  [ [ .subscribe 0 0 false true true none [],
      .publish 0 1 .bg,
      .publish 0 2 .bg ] ]

/-- the publisher runs to its end (goroutine 1 gets ticket 0, goroutine 2 ticket 1); goroutine 2 starts first and
parks at "async.turn" (a further step of it is refused); goroutine 1 takes its turn, runs the handler and passes the
turn on; then goroutine 2 runs -/
def ordSched : List Nat := [0, 0, 0, 0, 0, 0, 0, 0, 2, 1, 1, 1, 1, 1, 1, 2, 2, 2, 2, 2]

theorem ordRuns : (runT { s := initSys ordProgs } ordSched).isSome = true := by decide +kernel

def ordState : SysT := (runT { s := initSys ordProgs } ordSched).get ordRuns

theorem ordReachable : ReachableT ordProgs ordState := runT_reachable .init (Option.some_get ordRuns).symm

/-- goroutine 2 (ticket 1) cannot overtake: parked at "async.turn" before goroutine 1 has run, it is blocked -/
theorem ordBlocked :
    ((runT { s := initSys ordProgs } (ordSched.take 9)).bind (fun x => x.stepAt 2)).isNone = true := by decide +kernel

theorem ordSeqJobs : SeqJobs ordState.s 0 := by
  have h : ∀ th ∈ ordState.s.ths, (th.job.all fun j => j.reg.seq) = true := by decide +kernel
  intro th hth j hj _
  have := h th hth
  rw [hj] at this
  simpa using this

end OrderExample

end Ebu.Conc
