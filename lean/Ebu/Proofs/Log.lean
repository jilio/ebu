import Ebu.Spec.Log
import Ebu.Proofs.Lists
/-!
Stores as append-only resumable logs (C10) and Replay over them (C11).
-/
namespace Ebu.Log
open Ebu.Replay

theorem digitsW_length (w n : Nat) : (digitsW w n).length = w := by
  induction w generalizing n with
  | zero => rfl
  | succ w ih => simp [digitsW, ih]

theorem digitsW_ne_nil (w n : Nat) : digitsW (w + 1) n ≠ [] :=
  List.append_ne_nil_of_right_ne_nil _ (List.cons_ne_nil _ _)

theorem lexLt_irrefl (xs : List Nat) : lexLt xs xs = false := by
  induction xs with
  | nil => rfl
  | cons x xs ih => simp [lexLt, ih]

theorem lexLt_snoc (xs ys : List Nat) (a b : Nat) (h : xs.length = ys.length) :
    lexLt (xs ++ [a]) (ys ++ [b]) = (lexLt xs ys || (!lexLt ys xs && decide (a < b))) := by
  induction xs generalizing ys with
  | nil =>
    cases ys with
    | nil => by_cases h1 : a < b <;> simp [lexLt, h1]
    | cons y ys => simp at h
  | cons x xs ih =>
    cases ys with
    | nil => simp at h
    | cons y ys =>
      simp only [List.cons_append, lexLt, ih ys (by simpa using h)]
      rcases Nat.lt_trichotomy x y with h1 | rfl | h1
      · simp [h1]
      · simp
      · have : ¬ x < y := by omega
        simp [*]

theorem digitsVal_snoc (xs : List Nat) (c : Nat) :
    digitsVal (xs ++ [c]) = digitsVal xs * 10 + (c - 48) := by
  simp [digitsVal, List.foldl_append]

/-- `s` is a string of digits that denotes `n`. The two facts are proved together, since one step (`Digits.snoc`) serves
the inductions over `digitsW` and over `decimal`, and the parsers need both; `digitsW_digits`, `digitsVal_digitsW`,
`decimal_digits`, `digitsVal_decimal` say the same of the formats one fact at a time -/
def Digits (s : List Nat) (n : Nat) : Prop := s.all isDigit = true ∧ digitsVal s = n

theorem Digits.nil : Digits [] 0 := ⟨rfl, rfl⟩

theorem Digits.snoc {s : List Nat} {n : Nat} (h : Digits s n) (d : Nat) (hd : d < 10) :
    Digits (s ++ [zero + d]) (n * 10 + d) := by
  refine ⟨?_, ?_⟩
  · simp only [List.all_append, h.1, Bool.true_and]
    simp [isDigit, zero]; omega
  · rw [digitsVal_snoc, h.2]
    simp [zero]

theorem Digits.digitsW (w n : Nat) : Digits (digitsW w n) (n % 10 ^ w) := by
  induction w generalizing n with
  | zero => rw [Nat.pow_zero, Nat.mod_one]; exact .nil
  | succ w ih =>
    have := (ih (n / 10)).snoc (n % 10) (Nat.mod_lt _ (by omega))
    rwa [Nat.pow_succ, Nat.mul_comm (10 ^ w), Nat.mod_mul, Nat.mul_comm 10, Nat.add_comm (n % 10)]

theorem digitsW_digits (w n : Nat) : (digitsW w n).all isDigit = true := (Digits.digitsW w n).1

theorem digitsVal_digitsW (w n : Nat) (h : n < 10 ^ w) : digitsVal (digitsW w n) = n :=
  (Digits.digitsW w n).2.trans (Nat.mod_eq_of_lt h)

theorem digitsW_inj (w a b : Nat) (ha : a < 10 ^ w) (hb : b < 10 ^ w)
    (h : digitsW w a = digitsW w b) : a = b := by
  rw [← digitsVal_digitsW w a ha, h, digitsVal_digitsW w b hb]

theorem lexLt_digitsW (w a b : Nat) (ha : a < 10 ^ w) (hb : b < 10 ^ w) :
    lexLt (digitsW w a) (digitsW w b) = decide (a < b) := by
  induction w generalizing a b with
  | zero => simp at ha hb; subst ha; subst hb; rfl
  | succ w ih =>
    rw [Nat.pow_succ'] at ha hb
    have ha := Nat.div_lt_of_lt_mul ha
    have hb := Nat.div_lt_of_lt_mul hb
    simp only [digitsW]
    rw [lexLt_snoc _ _ _ _ (by simp [digitsW_length]), ih _ _ ha hb, ih _ _ hb ha, Bool.eq_iff_iff]
    simp only [Bool.or_eq_true, Bool.and_eq_true, Bool.not_eq_true', decide_eq_true_eq, decide_eq_false_iff_not]
    omega

/-- zero-padded offsets compare like the numbers they denote (this is why `%020d` makes the
memory store's string comparison correct; a Go int64 is below 10^20) -/
theorem lexLt_fmt20 (a b : Nat) (ha : a < 10 ^ 20) (hb : b < 10 ^ 20) :
    lexLt (fmt20 a) (fmt20 b) = decide (a < b) := lexLt_digitsW 20 a b ha hb

theorem decimal_lt (n : Nat) (h : n < 10) : decimal n = [zero + n] := by
  rw [decimal]; simp [h]

theorem decimal_ge (n : Nat) (h : ¬ n < 10) : decimal n = decimal (n / 10) ++ [zero + n % 10] := by
  rw [decimal]; simp [h]

theorem decimal_ne_nil (n : Nat) : decimal n ≠ [] := by
  by_cases h : n < 10
  · rw [decimal_lt n h]; simp
  · rw [decimal_ge n h]; simp

theorem Digits.decimal (n : Nat) : Digits (decimal n) n := by
  induction n using Nat.strongRecOn with
  | _ n ih =>
    by_cases h : n < 10
    · rw [decimal_lt n h]
      simpa using Digits.nil.snoc n h
    · rw [decimal_ge n h]
      have := (ih (n / 10) (by omega)).snoc (n % 10) (by omega)
      rwa [Nat.div_add_mod' n 10] at this

theorem decimal_digits (n : Nat) : (decimal n).all isDigit = true := (Digits.decimal n).1

theorem digitsVal_decimal (n : Nat) : digitsVal (decimal n) = n := (Digits.decimal n).2

theorem decimal_inj (a b : Nat) (h : decimal a = decimal b) : a = b := by
  rw [← digitsVal_decimal a, h, digitsVal_decimal b]

/-- the sign-stripping match is the identity on strings that start with a digit. It is stated of the matcher that
Lean generates for `parseInt64`, and `dsSignMatch_digits` below follows from it only because the matcher of `dsParse`
unfolds to the same term: reordering a `match` in the model, or another toolchain, renames or separates them. -/
theorem signMatch_digits (s : List Nat) : s.all isDigit = true →
    parseInt64.match_1 (fun _ => Bool × List Nat) s (fun r => (true, r)) (fun r => (false, r))
      (fun r => (false, r)) = (false, s) := by
  intro h
  split
  · simp [isDigit] at h
  · simp [isDigit] at h
  · rfl

theorem parseInt64_digits {s : List Nat} {n : Nat} (h : Digits s n) (hne : s ≠ []) (hn : n ≤ maxInt64) :
    parseInt64 s = some (n : Int) := by
  unfold parseInt64
  rw [signMatch_digits s h.1]
  simp [hne, h.1, h.2, hn]

theorem sqlParse_decimal (n : Nat) (h : n ≤ maxInt64) : sqlParse (decimal n) = some (n : Int) := by
  have hne := decimal_ne_nil n
  simp [sqlParse, hne, parseInt64_digits (Digits.decimal n) hne h]

/-- KNOWN FINDING (C10): unpadded decimal offsets do NOT increase under the documented
lexicographic comparison: offset "10" sorts before offset "9" -/
theorem sqlite_offsets_not_lex : lexLt (decimal 10) (decimal 9) = true := by
  decide +kernel

theorem logWith_length (off : Nat → Off) (rs : List Rec) : (logWith off rs).length = rs.length := by
  simp [logWith]

theorem logWith_getElem (off : Nat → Off) (rs : List Rec) (i : Nat) (h : i < (logWith off rs).length) :
    (logWith off rs)[i] = (off (i + 1), rs[i]'(by simpa [logWith_length] using h)) := by
  simp [logWith]

theorem logWith_snoc (off : Nat → Off) (rs : List Rec) (r : Rec) :
    logWith off (rs ++ [r]) = logWith off rs ++ [(off (rs.length + 1), r)] := by
  simp [logWith, List.range_succ, List.zip_append]

def lastOff (l : List (Off × Rec)) (d : Off) : Off :=
  match l.getLast? with | some e => e.1 | none => d

theorem lastOff_nil (d : Off) : lastOff [] d = d := rfl

theorem lastOff_cons (e : Off × Rec) (l : List (Off × Rec)) (d : Off) :
    lastOff (e :: l) d = lastOff l e.1 := by
  cases l with
  | nil => rfl
  | cons x xs =>
    have : (x :: xs).getLast? = some ((x :: xs).getLast (by simp)) :=
      List.getLast?_eq_some_getLast _
    simp [lastOff, List.getLast?_cons_cons, this]

theorem resumeAt_succ (off : Nat → Off) (j : Nat) : resumeAt off (j + 1) = off (j + 1) := rfl

theorem resumeAt_inj (off : Nat → Off) (n : Nat) (hne : ∀ i, off i ≠ [])
    (hinj : ∀ i j, i ≤ n → j ≤ n → off i = off j → i = j) (i j : Nat) (hi : i ≤ n) (hj : j ≤ n)
    (he : resumeAt off i = resumeAt off j) : i = j := by
  unfold resumeAt at he
  split at he <;> split at he
  · omega
  · exact absurd he.symm (hne j)
  · exact absurd he (hne i)
  · exact hinj i j hi hj he

theorem lastOff_prefix (off : Nat → Off) (all : List (Off × Rec))
    (hoffs : ∀ i (h : i < all.length), (all[i]).1 = off (i + 1)) (j : Nat) (s : List (Off × Rec))
    (hs : s <+: all.drop j) : lastOff s (resumeAt off j) = resumeAt off (j + s.length) := by
  induction s generalizing j with
  | nil => rfl
  | cons e t ih =>
    have hj : j < all.length := by
      apply Nat.lt_of_not_le; intro h; rw [List.drop_eq_nil_of_le h] at hs; simp at hs
    rw [List.drop_eq_getElem_cons hj, List.cons_prefix_cons] at hs
    rw [lastOff_cons, hs.1, hoffs j hj, ← resumeAt_succ off j, ih (j + 1) hs.2, List.length_cons]
    congr 1; omega

theorem sel_prefix (l : List (Off × Rec)) (b : Int) : sel l b <+: l := by
  unfold sel
  split
  · exact List.prefix_refl _
  · exact List.take_prefix _ _

theorem sel_eq_nil (l : List (Off × Rec)) (b : Int) (hb : 0 < b) (h : sel l b = []) : l = [] := by
  unfold sel at h
  rw [if_neg (by omega)] at h
  exact (List.take_eq_nil_iff.mp h).resolve_left (by omega)

theorem sel_cons (e : Off × Rec) (l : List (Off × Rec)) (b : Int) (hb : b ≠ 1) :
    sel (e :: l) b = e :: sel l (b - 1) := by
  unfold sel
  split
  · rw [if_pos (by omega)]
  · rw [if_neg (by omega), ← List.take_succ_cons]; congr; omega

/-- what the memory and the SQLite store have in common: `Read` hands back the last offset it
returned (`from` if it returned nothing) as the next one -/
theorem pagedSpec_of_reads (read : Off → Int → Option (List (Off × Rec) × Off)) (off : Nat → Off)
    (all : List (Off × Rec)) (hoffs : ∀ i (h : i < all.length), (all[i]).1 = off (i + 1))
    (hinj : ∀ i j, i ≤ all.length → j ≤ all.length → resumeAt off i = resumeAt off j → i = j)
    (hread : ∀ j, j ≤ all.length → ∀ limit, read (resumeAt off j) limit =
      some (sel (all.drop j) limit, lastOff (sel (all.drop j) limit) (resumeAt off j))) :
    PagedSpec read off all :=
  ⟨fun j hj limit => by rw [hread j hj, lastOff_prefix off all hoffs j _ (sel_prefix _ _)], hoffs, hinj⟩

theorem memOf_snoc (rs : List Rec) (r : Rec) : memOf (rs ++ [r]) = ((memOf rs).append r).1 := by
  simp [memOf, List.foldl_append]

theorem mem_log (rs : List Rec) :
    (memOf rs).events = logWith fmt20 rs ∧ (memOf rs).next = rs.length := by
  induction rs using Lists.snoc_induction with
  | hnil => exact ⟨rfl, rfl⟩
  | hsnoc l a ih =>
    rw [memOf_snoc, logWith_snoc]
    simp [Mem.append, ih.1, ih.2]

/-- the loop returns `sel` of the events after `from_` with the room that `acc` leaves: by `hacc`,
`limit - acc.length ≤ 0` only when `limit ≤ 0`, and then it means "all", as `limit` does -/
theorem memReadLoop_eq (from_ : Off) (limit : Int) (evs acc : List (Off × Rec)) (last : Off)
    (hacc : 0 < limit → (acc.length : Int) < limit) :
    let page := sel (evs.filter fun e => from_.isEmpty || lexLt from_ e.1) (limit - acc.length)
    memReadLoop from_ limit evs acc last = (acc ++ page, lastOff page last) := by
  induction evs generalizing acc last with
  | nil => simp [memReadLoop, sel, lastOff]
  | cons e evs ih =>
    simp [memReadLoop, List.filter_cons]
    split
    · split
      · rw [show limit - acc.length = 1 by omega]; rfl
      · rw [ih _ _ (by simp; omega), sel_cons _ _ _ (by omega), lastOff_cons]
        simp [Int.sub_sub]
    · exact ih _ _ hacc

theorem Mem.read_eq (m : Mem) (from_ : Off) (limit : Int) :
    m.read from_ limit = (sel (m.stream from_) limit, lastOff (sel (m.stream from_) limit) from_) := by
  simpa [Mem.read, Mem.stream] using memReadLoop_eq from_ limit m.events [] from_ (by simp)

theorem mem_stream (rs : List Rec) (h : rs.length < 10 ^ 20) (j : Nat) (hj : j ≤ rs.length) :
    (memOf rs).stream (resumeAt fmt20 j) = (logWith fmt20 rs).drop j := by
  rw [Mem.stream, (mem_log rs).1]
  apply Lists.filter_eq_drop
  intro i hi
  rw [logWith_length] at hi
  rw [logWith_getElem]
  cases j with
  | zero => simp [resumeAt]
  | succ j =>
    have : (fmt20 (j + 1)).isEmpty = false := by simpa [List.isEmpty_iff, fmt20] using digitsW_ne_nil 19 (j + 1)
    simp only [resumeAt_succ, this, Bool.false_or,
      lexLt_fmt20 _ _ (show j + 1 < 10 ^ 20 by omega) (show i + 1 < 10 ^ 20 by omega)]
    simp; omega

theorem mem_paged (rs : List Rec) (h : rs.length < 10 ^ 20) :
    PagedSpec (fun o l => some ((memOf rs).read o l)) fmt20 (logWith fmt20 rs) := by
  refine pagedSpec_of_reads _ _ _ (fun i hi => by rw [logWith_getElem]) ?_ ?_
  · rw [logWith_length]
    exact resumeAt_inj fmt20 rs.length (digitsW_ne_nil 19)
      (fun i j hi hj => digitsW_inj 20 i j (by omega) (by omega))
  · intro j hj limit
    rw [logWith_length] at hj
    rw [Mem.read_eq, mem_stream rs h j hj]

theorem mem_offsets_table (m : Mem) (id id' : String) (o : Off) :
    (m.save id o).load id = o ∧ (id' ≠ id → (m.save id o).load id' = m.load id') ∧
    (({} : Mem).load id = []) ∧ (m.save id o).events = m.events := by
  refine ⟨?_, fun hne => ?_, rfl, rfl⟩ <;> simp only [Mem.load, Mem.save, Lists.find?_upsert]
  · simp
  · simp [Ne.symm hne]

def rowsOf (rs : List Rec) : List (Nat × Rec) :=
  ((List.range rs.length).zip rs).map (fun (i, r) => (i + 1, r))

theorem rowsOf_length (rs : List Rec) : (rowsOf rs).length = rs.length := by
  simp [rowsOf]

theorem rowsOf_getElem (rs : List Rec) (i : Nat) (h : i < (rowsOf rs).length) :
    (rowsOf rs)[i] = (i + 1, rs[i]'(by simpa [rowsOf_length] using h)) := by
  simp [rowsOf]

theorem rowsOf_snoc (rs : List Rec) (r : Rec) :
    rowsOf (rs ++ [r]) = rowsOf rs ++ [(rs.length + 1, r)] := by
  simp [rowsOf, List.range_succ, List.zip_append]

theorem rowsOf_map (rs : List Rec) :
    (rowsOf rs).map (fun row => (decimal row.1, row.2)) = logWith decimal rs := by
  simp [rowsOf, logWith, List.map_map]

theorem sqlOf_snoc (rs : List Rec) (r : Rec) : sqlOf (rs ++ [r]) = ((sqlOf rs).append r).1 := by
  simp [sqlOf, List.foldl_append]

theorem sql_log (rs : List Rec) : (sqlOf rs).rows = rowsOf rs ∧ (sqlOf rs).seq = rs.length := by
  induction rs using Lists.snoc_induction with
  | hnil => exact ⟨rfl, rfl⟩
  | hsnoc l a ih =>
    rw [sqlOf_snoc, rowsOf_snoc]
    simp [Sql.append, ih.1, ih.2]

theorem sql_after (rs : List Rec) (j : Nat) :
    (sqlOf rs).rows.filter (fun row => (j : Int) < (row.1 : Int)) = (rowsOf rs).drop j := by
  rw [(sql_log rs).1]
  exact Lists.filter_eq_drop _ _ j (fun i hi => by rw [rowsOf_getElem]; simp; omega)

theorem sqlParse_resumeAt (j : Nat) (hj : j ≤ maxInt64) :
    sqlParse (resumeAt decimal j) = some (j : Int) := by
  by_cases hj0 : j = 0
  · subst hj0; rfl
  · simp only [resumeAt, if_neg hj0]; exact sqlParse_decimal j hj

theorem Sql.read_eq (s : Sql) (o : Off) (limit : Int) :
    s.read o limit = (sqlParse o).map fun pos =>
      let page := sel ((s.rows.filter fun row => pos < (row.1 : Int)).map fun row => (decimal row.1, row.2)) limit
      (page, lastOff page o) := by
  unfold Sql.read Sql.select sel
  cases sqlParse o with
  | none => rfl
  | some pos => by_cases hl : limit ≤ 0 <;> simp only [hl, if_true, if_false, List.map_take] <;> rfl

theorem sql_paged (rs : List Rec) (h : rs.length ≤ maxInt64) :
    PagedSpec (sqlOf rs).read decimal (logWith decimal rs) := by
  refine pagedSpec_of_reads _ _ _ (fun i hi => by rw [logWith_getElem])
    (resumeAt_inj decimal _ decimal_ne_nil (fun a b _ _ => decimal_inj a b)) ?_
  intro j hj limit
  rw [logWith_length] at hj
  rw [Sql.read_eq, sqlParse_resumeAt j (by omega), Option.map_some, sql_after, List.map_drop, rowsOf_map]

theorem sql_offsets_table (s s' : Sql) (id id' : String) (n : Nat) (hn : n ≤ maxInt64)
    (h : s.save id (decimal n) = some s') :
    s'.load id = decimal n ∧ (id' ≠ id → s'.load id' = s.load id') ∧ s'.rows = s.rows := by
  simp only [Sql.save, sqlParse_decimal n hn, Option.some.injEq] at h
  subst h
  refine ⟨?_, fun hne => ?_, rfl⟩ <;> simp only [Sql.load, Lists.find?_upsert]
  · simp [sqlFmt]
  · simp [Ne.symm hne]

/-- any chain of reads with any limits, resumed from the returned next offsets, cuts the log
into consecutive pages: no gap and no repeat -/
theorem chain_reads_reproduce_log (read : Off → Int → Option (List (Off × Rec) × Off)) (off : Nat → Off)
    (all : List (Off × Rec)) (hs : PagedSpec read off all) (j : Nat) (hj : j ≤ all.length) (limits : List Int) :
    chainReads read (resumeAt off j) limits = some (pages (all.drop j) limits) := by
  induction limits generalizing j with
  | nil => rfl
  | cons l ls ih =>
    have hsplit := congrArg List.length (Lists.drop_eq_prefix_append (sel_prefix (all.drop j) l))
    simp only [List.length_append, List.length_drop] at hsplit
    simp only [chainReads, hs.read_at j hj l, pages]
    rw [ih (j + (sel (all.drop j) l).length) (by omega)]
    simp [List.drop_drop]

/-- … and the same holds when a read is resumed from the offset of ANY returned event:
the offset of event number `j` is the resume point `j` -/
theorem resume_from_event_offset (read : Off → Int → Option (List (Off × Rec) × Off)) (off : Nat → Off)
    (all : List (Off × Rec)) (hs : PagedSpec read off all) (j : Nat) (hj : j < all.length) (limit : Int) :
    read (all[j]).1 limit = some (sel (all.drop (j + 1)) limit, resumeAt off (j + 1 + (sel (all.drop (j + 1)) limit).length)) := by
  have := hs.read_at (j + 1) (by omega) limit
  rw [hs.offs j hj]
  simpa [resumeAt] using this

theorem dsOf_fold (rs : List Rec) (d : Ds) :
    rs.foldl (fun d r => (d.append r).1) d = { d with msgs := d.msgs ++ rs } := by
  induction rs generalizing d with
  | nil => simp
  | cons r rs ih => rw [List.foldl_cons, ih]; simp [Ds.append]

theorem dsOf_eq (chunk : Nat) (rs : List Rec) : dsOf chunk rs = { msgs := rs, chunk := chunk } := by
  simp [dsOf, dsOf_fold]

theorem decimal_0 : decimal 0 = [48] := by rw [decimal_lt _ (by omega)]; rfl

/-- KNOWN FINDING (C10/C11/C12): `Read` truncates the chunk to `limit` but returns the
chunk's end as next offset: the rest of the chunk is lost for every chain of reads.
5 events, one chunk: Read(oldest, 2) returns 2 events, the next Read returns nothing. -/
theorem ds_limit_loses_events :
    ∃ evs next, (dsOf 5 [1, 2, 3, 4, 5]).read [] 2 = some (evs, next) ∧ evs.map (·.2) = [1, 2] ∧
      (dsOf 5 [1, 2, 3, 4, 5]).read next 2 = some ([], next) := by
  rw [dsOf_eq]
  exact ⟨_, _, rfl, rfl, rfl⟩

/-- KNOWN FINDING (C10/C12): the offset of a returned event is not a resume point: resuming
from the FIRST event's (synthetic) offset skips the whole chunk -/
theorem ds_event_offset_not_resumable :
    ∃ evs next, (dsOf 5 [1, 2, 3, 4, 5]).read [] 0 = some (evs, next) ∧ evs.length = 5 ∧
      ∃ o, evs.head? = some (o, 1) ∧ ((dsOf 5 [1, 2, 3, 4, 5]).read o 0).map (·.1.map (·.2)) = some [] := by
  rw [dsOf_eq]
  refine ⟨_, _, rfl, rfl, _, rfl, ?_⟩
  rw [decimal_0]
  rfl

theorem dsSignMatch_digits (s : List Nat) : s.all isDigit = true →
    dsParse.match_1 (fun _ => Bool × List Nat) s (fun r => (true, r)) (fun r => (false, r))
      (fun r => (false, r)) = (false, s) :=
  signMatch_digits s

theorem dsParse_digits {s : List Nat} {n : Nat} (h : Digits s n) (hne : s ≠ []) :
    dsParse s = some (n : Int) := by
  have h45 : (s == [45, 49]) = false := beq_false_of_ne (by rintro rfl; exact absurd h.1 (by decide))
  have htw : s.takeWhile isDigit = s := by
    rw [← List.append_nil s, List.takeWhile_append_of_pos (by simpa using h.1)]; rfl
  unfold dsParse
  rw [dsSignMatch_digits s h.1]
  simp [hne, h45, htw, h.2]

theorem dsParse_fmt10 (j : Nat) (hj : j < 10 ^ 10) : dsParse (fmt10 j) = some (j : Int) :=
  dsParse_digits ⟨digitsW_digits 10 j, digitsVal_digitsW 10 j hj⟩ (digitsW_ne_nil 9 j)

theorem dsParse_resume (j : Nat) (hj : j < 10 ^ 10) : dsParse (resumeAt fmt10 j) = some (j : Int) := by
  unfold resumeAt
  split
  · rename_i h; subst h; rfl
  · exact dsParse_fmt10 j hj

theorem ds_serverRead_resume (chunk : Nat) (hc : 0 < chunk) (rs : List Rec) (h : rs.length < 10 ^ 10)
    (j : Nat) (hj : j ≤ rs.length) :
    ({ msgs := rs, chunk := chunk } : Ds).serverRead (resumeAt fmt10 j) =
      some ((rs.drop j).take chunk, fmt10 (j + ((rs.drop j).take chunk).length)) := by
  unfold Ds.serverRead
  rw [dsParse_resume j (by omega)]
  have hmax : max chunk 1 = chunk := by omega
  simp only [hmax, Int.toNat_natCast]
  rw [if_neg (by simp; omega)]
  by_cases hms : (rs.drop j).take chunk = []
  · simp only [hms, List.isEmpty_nil, if_true, List.length_nil, Nat.add_zero]
    by_cases hj0 : j = 0
    · subst hj0; simp [resumeAt]
    · have hne : fmt10 j ≠ [] := digitsW_ne_nil 9 j
      have hne2 : (fmt10 j == [45, 49]) = false := by
        apply beq_false_of_ne
        intro h
        have := congrArg List.length h
        simp [fmt10, digitsW_length] at this
      simp [resumeAt, hj0, hne, hne2]
  · have : ((rs.drop j).take chunk).isEmpty = false := by simpa using hms
    simp [this]

/-- what does hold: reads that do not truncate (`limit ≤ 0` or `limit ≥ chunk`), chained
through the returned next offsets, return consecutive chunks of the log -/
theorem ds_read_untruncated_partial (chunk : Nat) (hc : 0 < chunk) (rs : List Rec) (h : rs.length < 10 ^ 10)
    (j : Nat) (hj : j ≤ rs.length) (limit : Int) (hl : limit ≤ 0 ∨ (chunk : Int) ≤ limit) :
    ∃ evs, (dsOf chunk rs).read (if j = 0 then [] else fmt10 j) limit = some (evs, fmt10 (j + evs.length)) ∧
      evs.map (·.2) = (rs.drop j).take chunk := by
  rw [dsOf_eq]
  unfold Ds.read
  rw [show (if j = 0 then [] else fmt10 j) = resumeAt fmt10 j from rfl, ds_serverRead_resume chunk hc rs h j hj]
  simp only
  generalize hms : (rs.drop j).take chunk = ms
  have hmsl : ms.length ≤ chunk := by rw [← hms]; simp; omega
  by_cases hemp : ms = []
  · subst hemp
    exact ⟨[], by simp, rfl⟩
  · have : ms.isEmpty = false := by simpa using hemp
    simp only [this, Bool.false_eq_true, if_false]
    generalize hfull : ((List.range ms.length).zip ms).map
      (fun (x : Nat × Rec) => (fmt10 (j + ms.length) ++ [slash] ++ decimal x.1, x.2)) = full
    have hfl : full.length = ms.length := by rw [← hfull]; simp
    have hfm : full.map (·.2) = ms := by
      rw [← hfull, List.map_map]
      exact List.map_snd_zip (by simp)
    have hcut : (if limit > 0 then full.take limit.toNat else full) = full := by
      split
      · apply List.take_of_length_le; omega
      · rfl
    rw [hcut]
    exact ⟨full, by rw [hfl], hfm⟩

theorem cancelled_none (f : Faults) (h : f.cancelAt = none) (n : Nat) : cancelled f n = false := by
  simp [cancelled, h]

theorem faulty_of_cancelled {f : Faults} {n : Nat} (h : cancelled f n = true) : f ≠ {} := by
  rintro rfl; cases h

theorem deliverList_cases (f : Faults) (check : Bool) (evs acc : List (Off × Rec)) :
    deliverList f check evs acc = (acc ++ evs, none, []) ∨
    ∃ d err may, deliverList f check evs acc = (d, some err, may) ∧ d ++ may <+: acc ++ evs ∧
      err ≠ .fuel ∧ f ≠ {} := by
  induction evs generalizing acc with
  | nil => exact .inl (by rw [List.append_nil]; rfl)
  | cons e evs ih =>
    have hstep : acc ++ [e] ++ evs = acc ++ e :: evs := (List.append_cons acc e evs).symm
    generalize hr : deliverList f check (e :: evs) acc = r
    simp only [deliverList] at hr
    split at hr
    · rename_i h
      exact .inr ⟨_, _, _, hr.symm, ⟨e :: evs, by rw [List.append_nil]⟩, nofun,
        faulty_of_cancelled (Bool.and_eq_true_iff.mp h).2⟩
    split at hr
    · rename_i h
      exact .inr ⟨_, _, _, hr.symm, ⟨evs, by rw [List.append_nil, hstep]⟩, nofun,
        by rintro rfl; cases h⟩
    split at hr
    · rename_i h
      exact .inr ⟨_, _, _, hr.symm, by rw [hstep]; exact List.prefix_refl _, nofun,
        faulty_of_cancelled (Bool.and_eq_true_iff.mp h).2⟩
    · rw [← hr, ← hstep]; exact ih (acc ++ [e])

theorem deliverList_callback (f : Faults) (k : Nat) (hk : f.cbFail = some k)
    (hc : (f.cancelAt.all (fun c => k ≤ c)) = true) (evs acc : List (Off × Rec))
    (h1 : acc.length ≤ k) (h2 : k < acc.length + evs.length) :
    (deliverList f true evs acc).2.1 = some .callback := by
  induction evs generalizing acc with
  | nil => simp at h2; omega
  | cons e evs ih =>
    have hcan : cancelled f acc.length = false := by
      unfold cancelled
      cases hca : f.cancelAt with
      | none => rfl
      | some c =>
        rw [hca] at hc
        simp at hc ⊢; omega
    simp only [deliverList, hcan, Bool.and_false, Bool.false_eq_true, if_false, hk,
      Bool.not_true, Bool.false_and, Option.some.injEq]
    by_cases hkk : k = acc.length
    · simp [hkk]
    · rw [if_neg hkk]
      apply ih
      · simp; omega
      · simp at h2 ⊢; omega

/-- What every Replay loop owes its caller when `total` (seen through `φ`: the identity, or the
record for durable-streams, whose event offsets are synthetic) is what should be delivered.
The loops prove it for `total = acc ++ rest`: consuming a page moves events from `rest` to `acc`
and leaves `total` as it is, so the inductive step is the induction hypothesis.
Names: `<loop>_sound` is about the loop of that name in the model (`replayStream`, and `replayPaged` and
`replaySqlBatched` started anywhere in the log with any accumulator); `<store>_replay_sound` (`pagedSpec`, `ds`, `sql`)
is the instance for a whole Replay over such a store. -/
structure Sound {β : Type} (φ : Off × Rec → β) (total : List β) (f : Faults) (r : Result) : Prop where
  pre : (r.delivered ++ r.may).map φ <+: total
  nofuel : r.err ≠ some .fuel
  done : r.err = none → r.delivered.map φ = total
  clean : f = {} → r.err = none ∧ r.may = []

theorem Sound.stop {β : Type} {φ : Off × Rec → β} {rest : List β} {f : Faults}
    {acc evs d may : List (Off × Rec)} {err : Err} (hp : d ++ may <+: acc ++ evs)
    (hevs : evs.map φ <+: rest) (he : err ≠ .fuel) (hf : f ≠ {}) :
    Sound φ (acc.map φ ++ rest) f ⟨d, some err, may⟩ := by
  refine ⟨?_, by simpa using he, by simp, fun h => absurd h hf⟩
  refine (List.IsPrefix.map φ hp).trans ?_
  rw [List.map_append]
  exact (List.prefix_append_right_inj _).mpr hevs

theorem Sound.halt {β : Type} {φ : Off × Rec → β} {rest : List β} {f : Faults} {acc : List (Off × Rec)}
    {err : Err} (he : err ≠ .fuel) (hf : f ≠ {}) : Sound φ (acc.map φ ++ rest) f ⟨acc, some err, []⟩ :=
  .stop (evs := []) (List.prefix_refl _) List.nil_prefix he hf

theorem Sound.all {β : Type} {φ : Off × Rec → β} {f : Faults} (d : List (Off × Rec)) :
    Sound φ (d.map φ) f ⟨d, none, []⟩ :=
  ⟨by simp, by simp, fun _ => rfl, fun _ => ⟨rfl, rfl⟩⟩

/-- `Sound` without `φ`, clause by clause as the C11 theorems for an arbitrary fault state it -/
theorem Sound.anyfault {total : List (Off × Rec)} {f : Faults} {r : Result} (h : Sound id total f r) :
    r.delivered ++ r.may <+: total ∧ r.err ≠ some .fuel ∧ (r.err = none → r.delivered = total) :=
  ⟨by simpa using h.pre, h.nofuel, by simpa using h.done⟩

theorem Sound.nofault {total : List (Off × Rec)} {r : Result} (h : Sound id total {} r) :
    r = ⟨total, none, []⟩ := by
  obtain ⟨he, hm⟩ := h.clean rfl
  cases r
  simp only [Result.mk.injEq]
  exact ⟨by simpa using h.done he, he, hm⟩

theorem replayStream_sound (f : Faults) (evs : List (Off × Rec)) :
    Sound id evs f (replayStream f evs) := by
  unfold replayStream
  rcases deliverList_cases f true evs [] with h | ⟨d, err, may, h, hp, he, hfault⟩ <;> rw [h]
  · simpa using Sound.all (φ := id) (f := f) evs
  · simpa using Sound.stop (φ := id) (acc := []) (may := []) ((List.prefix_append d may).trans hp |> (by simpa using ·))
      (List.prefix_refl _) he hfault

theorem replayStream_callback (f : Faults) (evs : List (Off × Rec)) (k : Nat) (hk : f.cbFail = some k)
    (hlt : k < evs.length) (hc : (f.cancelAt.all (fun c => k ≤ c)) = true) :
    (replayStream f evs).err = some .callback :=
  deliverList_callback f k hk hc evs [] (by simp) (by simpa using hlt)

/-- The paging loop over a `read` that, at batch size `b`, walks `all` page by page along the
resume points `pt` (`hread`): read at `pt j`, it returns the next stretch of `all`, which is empty only at the end of
`all`, because the loop takes the first empty page for the end; and the next offset it returns is the resume point behind
the page. That is asked after a non-empty page only: after an empty one the loop does not look at it, and
durable-streams answers an empty read from the start with `fmt10 0`, which is not the resume point `[]`.
`hinj` is what the `clean` clause costs: without a fault the stuck-offset guard
must not fire, so the resume point after a non-empty page has to differ from the one before it.
Fuel: one iteration per non-empty page, each of at least one event, and one for the empty read. -/
theorem replayPaged_sound {β : Type} (φ : Off × Rec → β) (all : List β)
    (read : Off → Int → Option (List (Off × Rec) × Off)) (b : Int) (pt : Nat → Off)
    (hread : ∀ j, j ≤ all.length → ∃ evs next, read (pt j) b = some (evs, next) ∧
      evs.map φ ++ all.drop (j + evs.length) = all.drop j ∧ (evs = [] → all.drop j = []) ∧
      (evs ≠ [] → next = pt (j + evs.length)))
    (hinj : ∀ i j, i ≤ all.length → j ≤ all.length → pt i = pt j → i = j)
    (f : Faults) (fuel : Nat) : ∀ (nread j : Nat) (acc : List (Off × Rec)), j ≤ all.length →
      (all.length - j) + 1 ≤ fuel →
      Sound φ (acc.map φ ++ all.drop j) f (replayPaged read f b fuel nread (pt j) acc) := by
  induction fuel with
  | zero => intro _ j _ _ hf; omega
  | succ fuel ih =>
    intro nread j acc hj hf
    obtain ⟨evs, next, hr, hsplit, hnil, hnext⟩ := hread j hj
    have hlen := congrArg List.length hsplit
    simp only [List.length_append, List.length_map, List.length_drop] at hlen
    have hpage : evs.map φ <+: all.drop j := ⟨_, hsplit⟩
    simp only [replayPaged, hr]
    by_cases hc : cancelled f acc.length = true
    · rw [if_pos hc]; exact .halt nofun (faulty_of_cancelled hc)
    by_cases hrf : f.readFail = some nread
    · rw [if_neg hc, if_pos hrf]; exact .halt nofun (by rintro rfl; cases hrf)
    by_cases hne : evs = []
    · rw [if_neg hc, if_neg hrf, if_pos (by rw [hne]; rfl), hnil hne, List.append_nil]
      exact .all acc
    · rw [if_neg hc, if_neg hrf, if_neg (by simpa using hne)]
      have hpos := List.length_pos_iff.mpr hne
      rcases deliverList_cases { f with cancelAt := none } true evs acc with h | ⟨d, err, may, h, hp, he, hfault⟩
      · rw [h, hnext hne, if_neg (fun he => by have := hinj _ _ (by omega) hj he; omega)]
        rw [← hsplit, ← List.append_assoc, ← List.map_append]
        exact ih _ _ _ (by omega) (by omega)
      · rw [h]
        exact .stop (may := []) (by simpa using (List.prefix_append d may).trans hp) hpage he
          (by rintro rfl; exact hfault rfl)

theorem effBatch_pos (b : Int) : 0 < effBatch b := by
  unfold effBatch; split <;> omega

theorem pagedSpec_replay_sound (read : Off → Int → Option (List (Off × Rec) × Off)) (off : Nat → Off)
    (all : List (Off × Rec)) (hs : PagedSpec read off all) (f : Faults) (j : Nat) (hj : j ≤ all.length)
    (batch : Int) (fuel : Nat) (hf : all.length + 2 ≤ fuel) :
    Sound id (all.drop j) f (replayPaged read f (effBatch batch) fuel 0 (resumeAt off j) []) := by
  have hb := effBatch_pos batch
  simpa using replayPaged_sound id all read (effBatch batch) (resumeAt off)
    (fun j hj => ⟨_, _, hs.read_at j hj _, by simpa using (Lists.drop_eq_prefix_append (sel_prefix (all.drop j) _)).symm,
      sel_eq_nil _ _ hb, fun _ => rfl⟩)
    hs.inj f fuel 0 j [] hj (by omega)

theorem ds_replay_sound (chunk : Nat) (hc : 0 < chunk) (rs : List Rec) (h : rs.length < 10 ^ 10)
    (batch : Int) (hb : (chunk : Int) ≤ batch) (f : Faults) (fuel : Nat) (hf : rs.length + 2 ≤ fuel) :
    Sound (·.2) rs f (replayPaged (dsOf chunk rs).read f batch fuel 0 [] []) := by
  refine replayPaged_sound (·.2) rs _ batch (resumeAt fmt10) ?_
    (resumeAt_inj fmt10 rs.length (digitsW_ne_nil 9)
      (fun i j hi hj => digitsW_inj 10 i j (by omega) (by omega))) f fuel 0 0 [] (by omega) (by omega)
  intro j hj
  obtain ⟨evs, hread, hmap⟩ := ds_read_untruncated_partial chunk hc rs h j hj batch (Or.inr hb)
  have hlen : evs.length = ((rs.drop j).take chunk).length := by rw [← hmap, List.length_map]
  refine ⟨evs, _, hread, ?_, ?_, ?_⟩
  · rw [hmap, hlen]; exact (Lists.drop_eq_prefix_append (List.take_prefix _ _)).symm
  · rintro rfl
    exact (List.take_eq_nil_iff.mp hmap.symm).resolve_left (by omega)
  · intro hne
    have := List.length_pos_iff.mpr hne
    simp only [resumeAt, if_neg (show j + evs.length ≠ 0 by omega)]

theorem ds_replay_untruncated_partial (chunk : Nat) (hc : 0 < chunk) (rs : List Rec) (h : rs.length < 10 ^ 10)
    (batch : Int) (hb : (chunk : Int) ≤ batch) (fuel : Nat) (hf : rs.length + 2 ≤ fuel) :
    (replayPaged (dsOf chunk rs).read {} batch fuel 0 [] []).err = none ∧
    (replayPaged (dsOf chunk rs).read {} batch fuel 0 [] []).delivered.map (·.2) = rs :=
  have hs := ds_replay_sound chunk hc rs h batch hb {} fuel hf
  ⟨(hs.clean rfl).1, hs.done (hs.clean rfl).1⟩

/-- KNOWN FINDING (C11): over the durable-streams store the paging fallback with a batch size
below the chunk size loses events and still returns nil: 5 events, batch 2 → 2 delivered, nil -/
theorem ds_replay_loses_events :
    (replayPaged (dsOf 5 [1, 2, 3, 4, 5]).read {} 2 20 0 [] []).err = none ∧
    ((replayPaged (dsOf 5 [1, 2, 3, 4, 5]).read {} 2 20 0 [] []).delivered.map (·.2)) = [1, 2] := by
  rw [dsOf_eq]
  exact ⟨rfl, rfl⟩

theorem sql_select_eq (rs : List Rec) (j batch : Nat) :
    (sqlOf rs).select (j : Int) (some batch) = ((rowsOf rs).drop j).take batch := by
  simp only [Sql.select, sql_after]

theorem sql_page_last (rs : List Rec) (j batch : Nat) (hb : 0 < batch) (hjb : j + batch ≤ rs.length) :
    ∃ r, (((rowsOf rs).drop j).take batch).getLast? = some (j + batch, r) := by
  have hlen : (((rowsOf rs).drop j).take batch).length = batch := by
    rw [List.length_take, List.length_drop, rowsOf_length]; omega
  have hlt : j + (batch - 1) < (rowsOf rs).length := by rw [rowsOf_length]; omega
  rw [List.getLast?_eq_getElem?, hlen, List.getElem?_take_of_lt (by omega), List.getElem?_drop,
    List.getElem?_eq_getElem hlt, rowsOf_getElem, show j + (batch - 1) + 1 = j + batch by omega]
  exact ⟨_, rfl⟩

/-- The SQLite loop keeps its cursor as a number: after a full page read from `j` it is the position of the page's
last row, `j + batch` (`sql_page_last`), and the loop stops at the first short page. -/
theorem replaySqlBatched_sound (rs : List Rec) (f : Faults) (batch : Nat) (hb : 0 < batch)
    (fuel : Nat) : ∀ (j : Nat) (acc : List (Off × Rec)), j ≤ rs.length → (rs.length - j) + 1 ≤ fuel →
      Sound id (acc ++ (logWith decimal rs).drop j) f
        (replaySqlBatched (sqlOf rs) f batch fuel (j : Int) acc) := by
  induction fuel with
  | zero => intro j _ _ hf; omega
  | succ fuel ih =>
    intro j acc hj hf
    simp only [replaySqlBatched]
    by_cases hc : cancelled f acc.length = true
    · rw [if_pos hc]
      simpa only [List.map_id] using
        Sound.halt (φ := id) (acc := acc) (err := .stream) nofun (faulty_of_cancelled hc)
    rw [if_neg hc, sql_select_eq, List.map_take, List.map_drop, rowsOf_map]
    have hsplit := Lists.drop_eq_prefix_append (List.take_prefix batch ((logWith decimal rs).drop j))
    generalize hpage : ((logWith decimal rs).drop j).take batch = page at hsplit
    rcases deliverList_cases f false page acc with h | ⟨d, err, may, h, hp, he, hfault⟩
    · rw [h]
      simp only
      by_cases hjb : j + batch ≤ rs.length
      · have hpl : page.length = batch := by
          rw [← hpage, List.length_take_of_le (by simp [logWith_length]; omega)]
        obtain ⟨r, hr⟩ := sql_page_last rs j batch hb hjb
        rw [if_neg (by omega), hr, hsplit, hpl, ← List.append_assoc]
        exact ih (j + batch) (acc ++ page) hjb (by omega)
      · have hall : (logWith decimal rs).drop j = page := by
          rw [← hpage, List.take_of_length_le (by simp [logWith_length]; omega)]
        rw [← hall, if_pos (by simp [logWith_length]; omega)]
        simpa only [List.map_id] using Sound.all (φ := id) (f := f) _
    · rw [h]
      simpa only [List.map_id] using
        Sound.stop (φ := id) hp (by rw [List.map_id]; exact ⟨_, hsplit.symm⟩) he hfault

theorem sql_replay_sound (rs : List Rec) (f : Faults) (batch : Nat) (hb : 0 < batch)
    (j : Nat) (hj : j ≤ rs.length) (fuel : Nat) (hf : rs.length + 2 ≤ fuel) :
    Sound id ((logWith decimal rs).drop j) f (replaySqlBatched (sqlOf rs) f batch fuel (j : Int) []) :=
  replaySqlBatched_sound rs f batch hb fuel j [] hj (by omega)

/-- KNOWN FINDING (C10): offsets are opaque strings whose format the event store defines, but the SQLite store keeps
saved positions as integers: the memory store's offset of record 3 is accepted and comes back as `"3"` -/
theorem sqlite_saved_offset_not_verbatim :
    ((Sql.save {} "s" (fmt20 3)).map (fun s => s.load "s")) = some (decimal 3) ∧ decimal 3 ≠ fmt20 3 := by
  decide +kernel

/-- a memory store that holds the records 1 … 6 -/
def mem6 : Mem := (List.range 6).foldl (fun m r => (m.append (r + 1)).1) {}

/-- KNOWN FINDING (C12): … and the memory store, which compares offsets as strings, finds nothing after `"3"` – neither
by streaming nor by reading – although records 4, 5 and 6 follow the offset that was saved: a subscription whose
positions are kept in the SQLite store loses every event of a memory log that was published while it was away -/
theorem sqlite_positions_lose_memory_events :
    (mem6.stream (fmt20 3)).map (·.2) = [4, 5, 6] ∧
    mem6.stream (decimal 3) = [] ∧ (mem6.read (decimal 3) 0).1 = [] := by
  decide +kernel

end Ebu.Log

