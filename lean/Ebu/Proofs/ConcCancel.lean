import Ebu.Spec.ConcOrder
import Ebu.Proofs.ConcTrace
/-!
C08 under concurrency: no handler is entered for a publish whose context is cancelled, however long the delivery had to
wait before it got there.

The synchronous half.  `PublishContext` checks the publish context before each delivery, then calls
`callHandlerWithContext`, which – for a Sequential handler – first waits for the handler's mutex.  The context may be
cancelled during that wait, so ebu looks at it again once it holds the mutex and skips the handler if it is cancelled
(ebu commit 1feea95).  M2 transcribes this: the step that leaves "handler.lock" checks `sh.live f.ctx` before it enters.
Hence `sync_entry_only_if_live`; and on the schedule on which a waiter finds its context cancelled (`cwSched`) it skips
the handler (`cancelled_waiter_is_skipped`).

The asynchronous half.  The goroutine of an Async handler looks at the context of the publish it was started for before
it enters the handler: a plain Async goroutine right at its start ("async.start"), an Async+Sequential goroutine when it
has got its turn ("async.turn") and once more when it has got the handler's mutex ("handler.lock", reached with
`async = true`).  In M2 `step` says `Obs.enter … true` at exactly two places – the live branch of `.astart` and the live
branch of `.lock r true` – and the trace invariant `TrInv` says that a goroutine parked at `.lock r true` is an async
goroutine with exactly one activation, the one of its job.  Hence `async_entry_only_if_live` and, over whole runs,
`cancelled_job_never_enters_later`.

The namespace `CancelWitness` has its name from the witness schedule `cwSched`; the general theorems are in it as well.
-/
namespace Ebu.Conc.CancelWitness
open Ebu.Conc Ebu.Conc.Inv Ebu.Conc.TraceExample

/-- C08 under concurrency: a SYNCHRONOUS handler is never entered for a publish whose context is cancelled – also when
its goroutine had to wait for the handler's Sequential mutex: every step that emits a synchronous entry is taken by a
goroutine whose innermost publish context is live before the step -/
theorem sync_entry_only_if_live (sh : Shared) (th : Thread) (o : Out) (h : step sh th = some o)
    (rid ty v : Nat) (he : Obs.enter rid ty v false ∈ o.obs) :
    ∃ f fs, th.frames = f :: fs ∧ sh.live f.ctx = true := by
  obtain ⟨r, _, _, hpc, _, _, _, _, ha⟩ := step_enter h he
  rcases (stepR_of_step h).enter_cases hpc with ⟨h1, _⟩ | ⟨f, fs, hfr, hl, _⟩
  · -- from "async.start" the entry is asynchronous
    simp [asyncAt, h1] at ha
  · exact ⟨f, fs, hfr, hl⟩

/-! ### the schedule on which a waiter finds its context cancelled: it skips the handler -/

/-- goroutine 0 subscribes a synchronous Sequential handler and publishes; goroutine 1 publishes with the cancellable
context 1; goroutine 2 cancels it -/
def cwProgs : List (List Op) :=
  [ [ .subscribe 1 0 false false true none [], .publish 1 1 .bg ],
    [ .publish 1 2 (.shared 1) ],
    [ .cancel 1 ] ]

/-- goroutine 0 enters the handler (and holds its mutex); goroutine 1 passes its context check and waits for the mutex;
goroutine 2 cancels; goroutine 0 leaves the handler -/
def cwSched : List Nat := [0, 0, 0, 0, 1, 1, 2, 0, 0]

theorem cwRuns : (runT { s := initSys cwProgs } cwSched).isSome = true := by decide +kernel

def cwState : SysT := (runT { s := initSys cwProgs } cwSched).get cwRuns

theorem cwRuns2 : (runT cwState [1]).isSome = true := by decide +kernel

def cwAfter : SysT := (runT cwState [1]).get cwRuns2

/-- the state the schedule leads to: reachable, context 1 is cancelled, goroutine 1 – whose publish carries that context –
is parked at the Sequential mutex of registration 0 (which is free again), and `cwAfter` is the state after its next step -/
theorem cancelled_waiter_state :
    ReachableT cwProgs cwState ∧ cwState.s.sh.cancelled = [1] ∧ cwState.s.sh.held = [] ∧
    (cwState.s.ths.map (fun th => th.frames.map (·.ctx))) = [[], [Ctx.shared 1], []] ∧
    (cwState.s.ths.map (fun th => match th.pc with | .lock r a => some (r.rid, a) | _ => none)) = [none, some (0, false), none] ∧
    cwState.stepAt 1 = some cwAfter := by
  refine ⟨runT_reachable .init (Option.some_get cwRuns).symm, by decide +kernel, by decide +kernel, by decide +kernel,
    by decide +kernel, ?_⟩
  have h : runT cwState [1] = some cwAfter := (Option.some_get cwRuns2).symm
  simpa [runT] using h

/-- in that state goroutine 1's next step – it gets the mutex of the handler, with the context of its publish cancelled in
the meantime – produces NO entry: the handler is skipped -/
theorem cancelled_waiter_is_skipped : entriesOfReg 0 cwAfter.tr = entriesOfReg 0 cwState.tr := by decide +kernel

end Ebu.Conc.CancelWitness

namespace Ebu.Conc
open Ebu.Conc.Inv

theorem lockAsync_shape {progs : List (List Op)} {x : SysT} (h : ReachableT progs x) {i : Nat} {th : Thread} {r : Reg}
    (hi : x.s.ths[i]? = some th) (hpc : th.pc = .lock r true) :
    ∃ j f, th.job = some j ∧ r = j.reg ∧ th.frames = [f] ∧ f.ty = j.ty ∧ f.v = j.v ∧ f.ctx = j.ctx := by
  have hT := (trInv_reachable x h).2 i th hi
  unfold ThTr at hT
  cases hj : th.job with
  | none =>
    rw [hj] at hT
    exact absurd hpc (hT.2.2 r)
  | some j =>
    rw [hj, hpc] at hT
    obtain ⟨_, h1, f, h2, h3, h4, h5⟩ := hT
    exact ⟨j, f, rfl, h1, h2, h3, h4, h5⟩

/-- C08 under concurrency, asynchronous half: the goroutine of an Async handler enters the handler only while the context
of the publish it was started for is live – whether it checks right at its start (plain Async) or after it has waited for
its turn and for the handler's mutex (Async+Sequential): every step that emits an asynchronous entry is taken by a
goroutine whose job context is live before the step -/
theorem async_entry_only_if_live {progs : List (List Op)} {x : SysT} (h : ReachableT progs x) (i : Nat) (th : Thread)
    (o : Out) (hi : x.s.ths[i]? = some th) (hstep : step x.s.sh th = some o)
    (rid ty v : Nat) (he : Obs.enter rid ty v true ∈ o.obs) :
    ∃ j, th.job = some j ∧ x.s.sh.live j.ctx = true ∧ rid = j.reg.rid ∧ ty = j.ty ∧ v = j.v := by
  obtain ⟨r, f', _, hpc, hfr', rfl, rfl, rfl, ha⟩ := step_enter hstep he
  rcases (stepR_of_step hstep).enter_cases hpc with ⟨_, j, hj, rfl, hl, hfr⟩ | ⟨f, fs, hfr, hl, hp, f'', hfr'', hty, hv⟩
  · -- "async.start": the activation entered is the one of the job
    rw [hfr] at hfr'; cases hfr'
    exact ⟨j, hj, hl, rfl, by simp [jobFrame], by simp [jobFrame]⟩
  · -- inside an activation an entry is asynchronous only at the "handler.lock" of an async delivery
    have h2 : ∃ r', th.pc = .lock r' true := by
      unfold asyncAt at ha
      split at ha
      · rename_i h1; rw [h1] at hp; simp [pcReg, asyncAt, h1] at hp
      · rename_i r' a _ _ h1 _; cases a
        · cases ha
        · exact ⟨r', h1⟩
      · cases ha
    obtain ⟨r', h2⟩ := h2
    obtain ⟨j, f0, hj, hr, hfr0, hty0, hv0, hctx⟩ := lockAsync_shape h hi h2
    rw [hfr0] at hfr; cases hfr
    rw [hfr''] at hfr'; cases hfr'
    have hrr : r = r' := by
      rcases hp with hp | hp
      · rw [h2] at hp; cases hp; rfl
      · rw [← ha] at hp; cases hp.2
    exact ⟨j, hj, hctx ▸ hl, by rw [hrr, hr], by rw [hty, hty0], by rw [hv, hv0]⟩

theorem dead_job_step_quiet {progs : List (List Op)} {x : SysT} (h : ReachableT progs x) {i : Nat} {th : Thread} {j : Job}
    (hi : x.s.ths[i]? = some th) (hj : th.job = some j) (hdead : x.s.sh.live j.ctx = false)
    {o : Out} (hstep : step x.s.sh th = some o) : o.obs.filter Obs.isAsyncEnter = [] := by
  rw [List.filter_eq_nil_iff]
  intro e he hae
  cases e with
  | enter rid ty v a =>
    cases a with
    | false => simp [Obs.isAsyncEnter] at hae
    | true =>
      obtain ⟨j', hj', hl, _⟩ := async_entry_only_if_live h i th o hi hstep rid ty v he
      rw [hj] at hj'
      cases hj'
      rw [hdead] at hl
      cases hl
  | _ => simp [Obs.isAsyncEnter] at hae

/-- the next step of a goroutine whose publish context is cancelled before it has entered its handler does not enter it
(over whole runs: `cancelled_job_never_enters_later`) -/
theorem cancelled_job_never_enters {progs : List (List Op)} {x : SysT} (h : ReachableT progs x) (i : Nat) (th : Thread) (j : Job)
    (hi : x.s.ths[i]? = some th) (hj : th.job = some j) (hdead : x.s.sh.live j.ctx = false)
    (hnot : asyncEntersOf i x.tr = []) (hpc : th.pc = .astart ∨ th.pc = .turn ∨ (∃ r, th.pc = .lock r true))
    (o : Out) (hstep : step x.s.sh th = some o) :
    ∀ e ∈ o.obs, e.isAsyncEnter = false := by
  -- `hnot` and `hpc` are part of the statement and not needed: `dead_job_step_quiet` holds at every program counter
  have _ := hnot
  have _ := hpc
  intro e he
  have hq := dead_job_step_quiet h hi hj hdead hstep
  rw [List.filter_eq_nil_iff] at hq
  cases hae : e.isAsyncEnter with
  | false => rfl
  | true => exact absurd hae (hq e he)

/-- the same over whole runs: from a reachable state in which the publish context of async goroutine `i` is cancelled and
the goroutine has not entered its handler, no schedule whatsoever makes it enter: its list of asynchronous entries stays
empty for ever -/
theorem cancelled_job_never_enters_later {progs : List (List Op)} {x x' : SysT} (h : ReachableT progs x) (hs : StepsT x x')
    (i : Nat) (th : Thread) (j : Job) (hi : x.s.ths[i]? = some th) (hj : th.job = some j)
    (hdead : x.s.sh.live j.ctx = false) (hnot : asyncEntersOf i x.tr = []) :
    asyncEntersOf i x'.tr = [] ∧ x'.s.sh.live j.ctx = false ∧ ∃ th', x'.s.ths[i]? = some th' ∧ th'.job = some j := by
  induction hs with
  | refl => exact ⟨hnot, hdead, th, hi, hj⟩
  | step hxy hst ih =>
    rename_i y z k
    obtain ⟨ih1, ih2, thy, ih3, ih4⟩ := ih
    have hry := StepsT.reachable h hxy
    obtain ⟨tk, o, htk, ho, _, rfl⟩ := stepAtT_cases hst
    have hR := stepR_of_step ho
    refine ⟨?_, hR.live_mono _ ih2, ?_⟩
    · simp only
      rw [asyncEntersOf_append, ih1]
      by_cases hk : k = i
      · subst hk
        rw [ih3] at htk
        cases htk
        simp [dead_job_step_quiet hry ih3 ih4 ih2 ho]
      · simp [hk]
    · obtain ⟨t', e, ej⟩ := getElem?_step_job o.new htk hR.job ih3
      exact ⟨t', e, ej.trans ih4⟩

end Ebu.Conc
