import Ebu.Proofs.BusSim
/-!
Refinement of the sharded registry to the flat specification, and the algebra of the
registry operations (C01, first half).  The abstraction `absSt` is an instance of the simulation of `BusSim`
(`Refine.ok`), hence commutes with `exec`.
-/
namespace Ebu.Bus

theorem flat_lawful : flatImpl.Lawful := by
  constructor
  · intro t; rfl
  · intro r t l t'; rfl
  · intro r t; rfl

theorem sharded_lawful (shardOf : Nat → Nat) : (shardedImpl shardOf).Lawful := by
  constructor
  · intro t; rfl
  · intro r t l t'
    simp only [shardedImpl]
    by_cases h : t' = t
    · subst h; simp
    · simp [h]
  · intro r t; rfl

namespace Refine
variable {R : Type} (I : RegImpl R)

theorem absSt_c (s : St R) : (absSt I s).c = s.c := rfl

theorem ok (hI : I.Lawful) : Sim.OK I flatImpl (fun r r' => (fun t => I.get r t) = r') Eq where
  get h _ := h ▸ rfl
  set h t l := by subst h; funext t'; exact hI.get_set ..
  clearAll _ := by funext t; exact hI.get_clearAll ..
  norm h := congrArg _ h
  map _ h := congrArg _ h

theorem absSt_eq {s : St R} {s' : St (Nat → List Reg)} (h : Sim (fun r r' => (fun t => I.get r t) = r') Eq s s') :
    absSt I s = s' :=
  congr (congrArg St.mk h.1) h.2

end Refine

/-- one call, with everything nested in it, commutes with the abstraction, for every lawful registry -/
theorem exec_refines {R : Type} (I : RegImpl R) (hI : I.Lawful) (cfg : Config) (n : Nat)
    (fr : Frame) (s : St R) (a : Action) :
    absSt I (exec I cfg n fr s a) = exec flatImpl cfg n fr (absSt I s) a :=
  Refine.absSt_eq I (exec_sim (Refine.ok I hI) n fr a s (absSt I s) ⟨rfl, rfl⟩)

theorem subscribe_spec {R : Type} (I : RegImpl R) (hI : I.Lawful) (cfg : Config)
    (rec : Frame → St R → Action → St R) (fr : Frame) (s : St R)
    (ty hid : Nat) (once async seq : Bool) (filt : Option (Nat × Nat)) (body : Nat) (fcancel : Bool) :
    let s' := step I cfg rec fr s (.subscribe ty hid once async seq filt body fcancel)
    I.get s'.reg ty = I.get s.reg ty ++ [⟨s.c.nextRid, ty, hid, once, async, seq, filt, body, fcancel⟩] ∧
    (∀ t, t ≠ ty → I.get s'.reg t = I.get s.reg t) ∧ s'.c.trace = s.c.trace := by
  intro s'
  refine ⟨?_, ?_, rfl⟩
  · simp [s', step, hI.get_set]
  · intro t ht
    simp [s', step, hI.get_set, ht]

theorem eraseFirst_split (p : Reg → Bool) : ∀ (l : List Reg), l.any p = true →
    ∃ pre h post, l = pre ++ h :: post ∧ p h = true ∧ (∀ x ∈ pre, p x = false) ∧
      eraseFirst p l = pre ++ post
  | [], h => by simp at h
  | r :: rs, h => by
    by_cases hr : p r = true
    · exact ⟨[], r, rs, rfl, hr, by simp, by simp [eraseFirst, hr]⟩
    · have h' : rs.any p = true := by
        simp only [List.any_cons, Bool.or_eq_true] at h
        rcases h with h | h
        · exact absurd h hr
        · exact h
      obtain ⟨pre, x, post, h1, h2, h3, h4⟩ := eraseFirst_split p rs h'
      refine ⟨r :: pre, x, post, by simp [h1], h2, ?_, by simp [eraseFirst, hr, h4]⟩
      intro y hy
      rcases List.mem_cons.1 hy with rfl | hy
      · simpa using hr
      · exact h3 y hy

/-- `Unsubscribe` removes exactly one registration — the first one of type `ty` whose handler
has the given code pointer — and reports an error iff there is none -/
theorem unsubscribe_spec {R : Type} (I : RegImpl R) (hI : I.Lawful) (cfg : Config)
    (rec : Frame → St R → Action → St R) (fr : Frame) (s : St R) (ty hid : Nat) :
    let s' := step I cfg rec fr s (.unsubscribe ty hid)
    (∀ t, t ≠ ty → I.get s'.reg t = I.get s.reg t) ∧
    ((∃ pre h post, I.get s.reg ty = pre ++ h :: post ∧ h.hid = hid ∧ (∀ x ∈ pre, x.hid ≠ hid) ∧
        I.get s'.reg ty = pre ++ post ∧ s'.c.trace = s.c.trace ++ [.qUnsub fr.depth ty hid true]) ∨
     ((∀ x ∈ I.get s.reg ty, x.hid ≠ hid) ∧ I.get s'.reg ty = I.get s.reg ty ∧
        s'.c.trace = s.c.trace ++ [.qUnsub fr.depth ty hid false])) := by
  intro s'
  by_cases hany : (I.get s.reg ty).any (fun h => h.hid == hid) = true
  · have hs' : s' = { reg := I.set s.reg ty (eraseFirst (fun h => h.hid == hid) (I.get s.reg ty)),
                      c := s.c.emit (.qUnsub fr.depth ty hid true) } := by
      simp [s', step, hany]
    refine ⟨?_, Or.inl ?_⟩
    · intro t ht
      simp [hs', hI.get_set, ht]
    · obtain ⟨pre, h, post, h1, h2, h3, h4⟩ := eraseFirst_split _ _ hany
      refine ⟨pre, h, post, h1, by simpa using h2, ?_, ?_, ?_⟩
      · intro x hx
        simpa using h3 x hx
      · simp [hs', hI.get_set, h4]
      · simp [hs']
  · have hs' : s' = { s with c := s.c.emit (.qUnsub fr.depth ty hid false) } := by
      simp [s', step, hany]
    refine ⟨?_, Or.inr ⟨?_, ?_, ?_⟩⟩
    · intro t ht
      simp [hs']
    · intro x hx
      simp only [List.any_eq_true, not_exists, not_and] at hany
      simpa using hany x hx
    · simp [hs']
    · simp [hs']

theorem clear_spec {R : Type} (I : RegImpl R) (hI : I.Lawful) (cfg : Config)
    (rec : Frame → St R → Action → St R) (fr : Frame) (s : St R) (ty : Nat) :
    let s' := step I cfg rec fr s (.clear ty)
    I.get s'.reg ty = [] ∧ (∀ t, t ≠ ty → I.get s'.reg t = I.get s.reg t) := by
  intro s'
  refine ⟨?_, ?_⟩
  · simp [s', step, hI.get_set]
  · intro t ht
    simp [s', step, hI.get_set, ht]

theorem clearAll_spec {R : Type} (I : RegImpl R) (hI : I.Lawful) (cfg : Config)
    (rec : Frame → St R → Action → St R) (fr : Frame) (s : St R) :
    ∀ t, I.get (step I cfg rec fr s .clearAll).reg t = [] := by
  intro t
  simp [step, hI.get_clearAll]

/-- `HasHandlers` and `HandlerCount` report the registry: the emitted answers are
`length > 0` and `length` of the type's registration list, and they leave it unchanged -/
theorem queries_spec {R : Type} (I : RegImpl R) (cfg : Config)
    (rec : Frame → St R → Action → St R) (fr : Frame) (s : St R) (ty : Nat) :
    (step I cfg rec fr s (.has ty)).c.trace = s.c.trace ++ [.qHas fr.depth ty (decide (0 < (I.get s.reg ty).length))] ∧
    (step I cfg rec fr s (.count ty)).c.trace = s.c.trace ++ [.qCount fr.depth ty (I.get s.reg ty).length] ∧
    (step I cfg rec fr s (.has ty)).reg = s.reg ∧ (step I cfg rec fr s (.count ty)).reg = s.reg := by
  refine ⟨?_, ?_, rfl, rfl⟩
  · simp only [step, Core.trace_emit]
    congr 3
    cases I.get s.reg ty <;> simp
  · simp only [step, Core.trace_emit]

end Ebu.Bus
