import Ebu.Spec.Conc
import Ebu.Proofs.ConcBase
import Ebu.Proofs.Lists
/-!
Invariants of the interleaving model, for every program, any number of threads and every
schedule (`Reachable` = reflexive-transitive closure of "some thread takes one step"): the account of the registry
(C02), activations within their snapshot, what the program counter says about a thread (`ThOK`), the in-flight counter
(C06), the once account (C04), the sequential mutex and the ticket lock (C07, `TkX`).  Each is a lemma about one step
(`StepR.…`) and one application of `reach_threads` or `reach_wsum` – of `reach_ind` itself where the invariant speaks of
the shared state alone (`RegInv`) or ties several sums to one another (`TkX`).  Apart from these, what one step does to
the registrations a thread carries (`Carried S`): `Hist` (`ConcProgress`) and `ConcDead` instantiate `S`.  The theorems of
C02, C04, C06 and C07 that close the file, outside the namespace `Inv`, read the invariants off.
-/
namespace Ebu.Conc

namespace Inv

theorem eraseFirst_sublist (p : Reg → Bool) (l : List Reg) : (eraseFirst p l).Sublist l := by
  induction l with
  | nil => exact .slnil
  | cons r rs ih =>
    unfold eraseFirst
    split
    · exact List.sublist_cons_self _ _
    · exact ih.cons_cons _

theorem retire_sublist (cl : List Nat) (l : List Reg) :
    (cl.foldl (fun regs c => eraseFirst (fun h => h.rid == c) regs) l).Sublist l := by
  induction cl generalizing l with
  | nil => exact List.Sublist.refl _
  | cons c cl ih => exact (ih _).trans (eraseFirst_sublist _ _)

/-- how one step can change the registry, and with it the program of its thread -/
inductive RegStep (sh sh' : Shared) (p p' : List Op) : Prop
  | add (ty hid : Nat) (once async seq : Bool) (filt : Option (Nat × Nat)) (body : List (Nat × Nat))
      (hp : p = .subscribe ty hid once async seq filt body :: p')
      (h1 : sh'.regs = sh.regs ++ [⟨sh.nextRid, ty, hid, once, async, seq, filt, body⟩]) (h2 : sh'.removed = sh.removed)
      (h3 : sh'.nextRid = sh.nextRid + 1)
  | del (hp : p' <:+ p) (h1 : sh'.regs.Sublist sh.regs)
      (h2 : sh'.removed = sh.removed + (sh.regs.length - sh'.regs.length)) (h3 : sh'.nextRid = sh.nextRid)

theorem Shape.same {sh th f fs PF PC PG o} (h : Shape sh th f fs PF PC PG o) :
    o.sh.regs = sh.regs ∧ o.sh.removed = sh.removed ∧ o.sh.nextRid = sh.nextRid ∧ o.th.prog = th.prog := by
  cases h <;> simp

theorem RegStep.mem_old {sh sh' : Shared} {p p' : List Op} (h : RegStep sh sh' p p') {r : Reg} (hr : r ∈ sh'.regs) :
    r ∈ sh.regs ∨ r.rid = sh.nextRid := by
  cases h with
  | add _ _ _ _ _ _ _ _ e1 _ _ =>
    rw [e1, List.mem_append, List.mem_singleton] at hr
    exact hr.imp id fun e => by rw [e]
  | del _ e1 _ _ => exact .inl (e1.subset hr)

theorem RegStep.suffix {sh sh' : Shared} {p p' : List Op} (h : RegStep sh sh' p p') : p' <:+ p := by
  cases h with
  | add _ _ _ _ _ _ _ hp _ _ _ => exact hp ▸ List.suffix_cons _ _
  | del hp _ _ _ => exact hp

theorem StepR.regStep {sh th o} (h : StepR sh th o) : RegStep sh o.sh th.prog o.th.prog := by
  cases h
  case subscribe hp => exact .add _ _ _ _ _ _ _ hp rfl rfl rfl
  case unsubscribe hp => exact .del (hp ▸ List.suffix_cons _ _) (eraseFirst_sublist _ _) rfl rfl
  case clear hp => exact .del (hp ▸ List.suffix_cons _ _) List.filter_sublist rfl rfl
  case cancel hp | count hp | wait hp _ | publish hp => exact .del (hp ▸ List.suffix_cons _ _) (.refl _) (by simp) rfl
  case retire => exact .del (List.suffix_refl _) (retire_sublist _ _) rfl rfl
  case snap hsh | filterAcc hsh | filterRej hsh | claimed hsh | spawn hsh | exit hsh | lockDeadSync hsh =>
    obtain ⟨h1, h2, h3, h4⟩ := hsh.same
    exact .del (by simp [h4]) (by simp [h1]) (by simp [h1, h2]) h3
  all_goals exact .del (List.suffix_refl _) (by simp) (by simp) (by simp)

theorem prog_reachable {progs : List (List Op)} :
    ∀ s, Reachable progs s → ∀ th ∈ s.ths, ∀ op ∈ th.prog, ∃ p ∈ progs, op ∈ p :=
  reach_threads (P := fun _ th => ∀ op ∈ th.prog, ∃ p ∈ progs, op ∈ p) (fun p hp op hop => ⟨p, hp, hop⟩)
    (fun _ _ => by simp) (fun _ _ _ _ _ hR h => ⟨fun op hop => h op (hR.regStep.suffix.subset hop), fun _ h => h⟩)

def RegInv (sh : Shared) : Prop :=
  sh.regs.length + sh.removed = sh.nextRid ∧ (sh.regs.map (·.rid)).Nodup ∧ ∀ r ∈ sh.regs, r.rid < sh.nextRid

theorem RegInv.step {sh sh' : Shared} {p p' : List Op} (hi : RegInv sh) (h : RegStep sh sh' p p') : RegInv sh' := by
  obtain ⟨ha, hn, hb⟩ := hi
  cases h with
  | add ty hid once async seq filt body _ h1 h2 h3 =>
    refine ⟨by simp [h1, h2, h3]; omega, ?_, ?_⟩
    · rw [h1, List.map_append, List.nodup_append]
      refine ⟨hn, by simp, ?_⟩
      intro a ha' b hb' hab
      simp at hb' ha'
      obtain ⟨r', hr', rfl⟩ := ha'
      have := hb r' hr'
      omega
    · intro r' hr'
      rw [h1] at hr'
      simp at hr'
      rcases hr' with hr' | rfl
      · have := hb r' hr'; omega
      · simp [h3]
  | del _ h1 h2 h3 =>
    have hl := h1.length_le
    refine ⟨by rw [h2, h3]; omega, (h1.map _).nodup hn, ?_⟩
    intro r hr
    rw [h3]; exact hb r (h1.subset hr)

theorem regInv_reachable {progs : List (List Op)} : ∀ s, Reachable progs s → RegInv s.sh := by
  apply reach_ind
  · simp [RegInv, initSys]
  · intro s i th o _ hi _ _ hR
    exact hi.step hR.regStep

/-- the activation stays within its snapshot -/
structure FrOK (n : Nat) (f : Frame) : Prop where
  suf : f.rest <:+ f.snapshot
  mem : ∀ r ∈ f.snapshot, r.ty = f.ty ∧ r.rid < n

theorem FrOK.mono {n m : Nat} {f : Frame} (h : FrOK n f) (hnm : n ≤ m) : FrOK m f :=
  ⟨h.1, fun r hr => ⟨(h.2 r hr).1, Nat.lt_of_lt_of_le (h.2 r hr).2 hnm⟩⟩

theorem newFrame_ok {sh : Shared} (hreg : ∀ r ∈ sh.regs, r.rid < sh.nextRid) (ty v : Nat) (ctx : Ctx) :
    FrOK sh.nextRid (newFrame sh ty v ctx) := by
  refine ⟨List.suffix_refl _, ?_⟩
  intro r hr
  simp [newFrame] at hr
  exact ⟨hr.2, hreg r hr.1⟩

theorem Shape.frames {sh th f fs o n}
    (h : Shape sh th f fs (fun _ l => l <:+ f.rest) (fun _ l => l <:+ f.rest) (fun _ l => l <:+ f.rest) o)
    (hf : FrOK n f) (hfs : ∀ g ∈ fs, FrOK n g) : ∀ g ∈ o.th.frames, FrOK n g := by
  have key : ∀ f' : Frame, f'.rest <:+ f.rest → f'.snapshot = f.snapshot → f'.ty = f.ty → FrOK n f' := by
    intro f' h1 h2 h3
    exact ⟨h2 ▸ h1.trans hf.1, by rw [h2, h3]; exact hf.2⟩
  cases h
  case ret => exact hfs
  all_goals
    intro g hg
    simp only [List.mem_cons] at hg
    rcases hg with rfl | hg
    · apply key <;> simp [*]
    · exact hfs g hg

theorem FrOK.upd {n : Nat} {f f' : Frame} (h : FrOK n f) (h1 : f'.rest = f.rest) (h2 : f'.snapshot = f.snapshot)
    (h3 : f'.ty = f.ty) : FrOK n f' :=
  ⟨by rw [h1, h2]; exact h.1, by rw [h2, h3]; exact h.2⟩

theorem StepR.frames {sh th o} (h : StepR sh th o) (hreg : ∀ r ∈ sh.regs, r.rid < sh.nextRid)
    (hth : ∀ g ∈ th.frames, FrOK sh.nextRid g) : ∀ g ∈ o.th.frames, FrOK sh.nextRid g := by
  cases h
  case snap | filterRej | spawn | lockDeadSync =>
    rename_i hsh
    rw [‹th.frames = _›, List.forall_mem_cons] at hth
    exact (hsh.stops fun _ _ h => h.tail).frames hth.1 hth.2
  case filterAcc hfr _ hsh | claimed hfr hsh =>
    rw [hfr, List.forall_mem_cons] at hth
    exact (hsh.stops (fun _ _ h => h.tail) (List.suffix_refl _)).frames hth.1 hth.2
  case exit hfr _ hsh =>
    rw [hfr, List.forall_mem_cons] at hth
    exact (hsh.stops fun _ _ h => h.tail).frames (hth.1.upd rfl rfl rfl) hth.2
  case bodyEnd | fin | subscribe | unsubscribe | clear | cancel | count | wait | enterEnd | astartSeq | astartDead |
      turnDead | aend => exact hth
  case lockDeadJob | exitJob => intro g hg; cases hg
  case bodyPub hfr _ | enterPub hfr _ =>
    rw [hfr, List.forall_mem_cons] at hth
    simp only [List.forall_mem_cons]
    exact ⟨newFrame_ok hreg _ _ _, hth.1.upd rfl rfl rfl, hth.2⟩
  case publish => simpa using newFrame_ok hreg _ _ _
  case lock hfr _ _ | retire hfr =>
    rw [hfr, List.forall_mem_cons] at hth
    simp only [List.forall_mem_cons]
    exact ⟨hth.1.upd rfl rfl rfl, hth.2⟩
  case retired hfr => rw [hfr, List.forall_mem_cons] at hth; exact hth.2
  case astartRun | turnRun => simpa using ⟨by simp [jobFrame], by simp [jobFrame]⟩

theorem RegStep.nextRid_le {sh sh' : Shared} {p p' : List Op} (h : RegStep sh sh' p p') : sh.nextRid ≤ sh'.nextRid := by
  cases h <;> omega

theorem frOK_reachable {progs : List (List Op)} :
    ∀ s, Reachable progs s → ∀ th ∈ s.ths, ∀ f ∈ th.frames, FrOK s.sh.nextRid f :=
  reach_threads (P := fun sh th => ∀ f ∈ th.frames, FrOK sh.nextRid f) (fun _ _ => by simp) (fun _ _ => by simp)
    (fun s th o hr _ hR h => by
      have hle := hR.regStep.nextRid_le
      have hfr := hR.frames (regInv_reachable s hr).2.2 h
      exact ⟨fun f hf => (hfr f hf).mono hle, fun t ht f hf => (ht f hf).mono hle⟩)

/-- what the program counter says about the rest of the thread -/
def ThOK (th : Thread) : Prop :=
  match th.pc with
  | .snap | .filter _ | .claimed _ | .spawn _ _ _ | .retire | .retired =>
      (∃ f fs, th.frames = f :: fs ∧ f.handler = none) ∧ (th.job.isSome → 2 ≤ th.frames.length)
  | .lock r false =>
      r.seq = true ∧ (∃ f fs, th.frames = f :: fs ∧ f.handler = none) ∧ (th.job.isSome → 2 ≤ th.frames.length)
  | .lock r true => r.seq = true ∧ (∃ f fs, th.frames = f :: fs ∧ f.handler = none) ∧ ∃ j, th.job = some j ∧ j.reg = r
  | .enter r | .exit r => ∃ f fs, th.frames = f :: fs ∧ f.handler = some r
  | .op => th.job.isSome → th.frames ≠ []
  | .astart => (∃ j, th.job = some j) ∧ th.frames = []
  | .turn => (∃ j, th.job = some j ∧ j.reg.seq = true) ∧ th.frames = []
  | .aend => th.job.isSome ∧ th.frames = []
  | .done => True

theorem ThOK.lock {th : Thread} (hth : ThOK th) {r : Reg} {a : Bool} {f : Frame} {fs : List Frame}
    (hpc : th.pc = .lock r a) (hfr : th.frames = f :: fs) : r.seq = true ∧ f.handler = none := by
  cases a <;> simp only [ThOK, hpc, hfr] at hth
  · obtain ⟨hs, ⟨f', fs', h1', h2⟩, _⟩ := hth; cases h1'; exact ⟨hs, h2⟩
  · obtain ⟨hs, ⟨f', fs', h1', h2⟩, _⟩ := hth; cases h1'; exact ⟨hs, h2⟩

theorem ThOK.lockT {th : Thread} {r : Reg} (h : ThOK th) (hpc : th.pc = .lock r true) :
    r.seq = true ∧ ∃ j, th.job = some j ∧ j.reg = r := by
  simp only [ThOK, hpc] at h
  exact ⟨h.1, h.2.2⟩

theorem ThOK.handler {th : Thread} (h : ThOK th) {r : Reg} {f : Frame} {fs : List Frame}
    (hpc : th.pc = .enter r ∨ th.pc = .exit r) (hfr : th.frames = f :: fs) : f.handler = some r := by
  rcases hpc with hpc | hpc <;> simpa [ThOK, hpc, hfr] using h

theorem ThOK.lock_frames {th : Thread} (h : ThOK th) {r : Reg} {a : Bool} (hpc : th.pc = .lock r a) :
    ∃ f fs, th.frames = f :: fs := by
  cases a <;> simp only [ThOK, hpc] at h <;> obtain ⟨_, ⟨f, fs, hfr, _⟩, _⟩ := h <;> exact ⟨f, fs, hfr⟩

theorem ThOK.turn {th : Thread} {j : Job} (h : ThOK th) (hpc : th.pc = .turn) (hj : th.job = some j) : j.reg.seq = true := by
  simp only [ThOK, hpc] at h
  obtain ⟨⟨j', hj', hs⟩, _⟩ := h
  rw [hj] at hj'; cases hj'; exact hs

theorem ThOK.congr {th th' : Thread} (h : ThOK th) (h1 : th'.pc = th.pc) (h2 : th'.frames = th.frames)
    (h3 : th'.job = th.job) : ThOK th' := by
  unfold ThOK at h ⊢; rw [h1, h2, h3]; exact h

theorem ThOK.top {th : Thread} (h : ThOK th) {f : Frame} {fs : List Frame} (hfr : th.frames = f :: fs)
    (hpc : th.pc = .snap ∨ (∃ r, th.pc = .filter r) ∨ (∃ r, th.pc = .claimed r) ∨ (∃ r n t, th.pc = .spawn r n t) ∨
      th.pc = .retire ∨ th.pc = .retired) :
    f.handler = none ∧ (th.job.isSome → fs ≠ []) := by
  have len2 : 2 ≤ (f :: fs).length → fs ≠ [] := by cases fs <;> simp
  rcases hpc with hpc | ⟨r, hpc⟩ | ⟨r, hpc⟩ | ⟨r, n, t, hpc⟩ | hpc | hpc <;>
  · simp only [ThOK, hpc, hfr] at h
    obtain ⟨⟨f', fs', h1, h2⟩, h3⟩ := h
    cases h1
    exact ⟨h2, fun hj => len2 (h3 hj)⟩

theorem ne_nil_of_job {th : Thread} {fs : List Frame} (hj : th.job = none ∨ fs ≠ []) : th.job.isSome → fs ≠ [] := by
  rcases hj with hj | hj
  · simp [hj]
  · exact fun _ => hj

theorem Shape.thOK {sh th f fs PF PC PG o} (h : Shape sh th f fs PF PC PG o) (hf : f.handler = none)
    (hlen : th.job.isSome → fs ≠ []) : ThOK o.th := by
  cases h <;> simp [ThOK, Nat.one_le_iff_ne_zero, *] <;> exact hlen

theorem StepR.thOK {sh th o} (h : StepR sh th o) (hth : ThOK th) : ThOK o.th := by
  cases h
  case snap | filterAcc | filterRej | claimed | spawn =>
    rename_i hsh
    have := hth.top ‹th.frames = _› (by simp [*])
    exact hsh.thOK this.1 this.2
  case exit hj hsh => exact hsh.thOK rfl (ne_nil_of_job hj)
  case lockDeadSync hpc hfr hj _ _ hsh => exact hsh.thOK (hth.lock hpc hfr).2 (ne_nil_of_job hj)
  case subscribe | unsubscribe | clear | cancel | count | wait => exact hth.congr rfl rfl rfl
  case bodyPub | enterPub => simp [ThOK, newFrame]
  case publish hpc hfr _ => simp only [ThOK, hpc, hfr] at hth; simpa [ThOK, newFrame] using hth
  case bodyEnd hfr _ hh => simp [ThOK, hfr, hh]
  case enterEnd hpc hfr _ => simp [ThOK, hfr, hth.handler (.inl hpc) hfr]
  case fin | aend => simp [ThOK]
  case lock | astartRun => simp [ThOK, jobFrame]
  case lockDeadJob hj _ _ _ => simp [ThOK, hj]
  case exitJob hj _ => simp [ThOK, hj]
  case retire hpc hfr =>
    have := hth.top hfr (by simp [hpc])
    simpa [ThOK, this.1] using fun hj => Nat.succ_le_of_lt (List.length_pos_iff.2 (this.2 hj))
  case retired hpc hfr => simpa [ThOK] using (hth.top hfr (by simp [hpc])).2
  case astartSeq hpc hj hs => simp only [ThOK, hpc] at hth; simpa [ThOK, hj, hs] using hth.2
  case astartDead hpc hj _ _ => simp only [ThOK, hpc] at hth; simpa [ThOK, hj] using hth.2
  case turnRun hpc hj _ _ => simp only [ThOK, hpc] at hth; simpa [ThOK, jobFrame, hj] using hth.1
  case turnDead hpc hj _ _ => simp only [ThOK, hpc] at hth; simpa [ThOK, hj] using hth.2

theorem thOK_reachable {progs : List (List Op)} : ∀ s, Reachable progs s → ∀ th ∈ s.ths, ThOK th :=
  reach_threads (P := fun _ th => ThOK th) (fun _ _ => by simp [ThOK]) (fun _ _ => by simp [ThOK])
    (fun _ _ _ _ _ hR h => ⟨hR.thOK h, fun _ h => h⟩)

def isSpawn : Pc → Bool
  | .spawn _ _ _ => true
  | _ => false

/-- what a thread contributes to `bus.wg` -/
def wInfl (th : Thread) : Nat :=
  (if th.job.isSome && th.pc != .done then 1 else 0) + (if isSpawn th.pc then 1 else 0)

theorem infl_eq (s : Sys) : liveJobs s + pendingSpawns s = wsum wInfl s.ths := by
  have e : pendingSpawns s = s.ths.countP (fun th => isSpawn th.pc) := by
    unfold pendingSpawns; congr 1
  rw [e]
  unfold liveJobs wInfl
  rw [countP_eq_wsum, countP_eq_wsum, ← wsum_add]

theorem Shape.infl {sh th f fs PF PC PG o} (h : Shape sh th f fs PF PC PG o) :
    o.sh.inflight + (if th.job.isSome then 1 else 0) = sh.inflight + wInfl o.th := by
  cases h <;> simp [wInfl, isSpawn] <;> omega

theorem StepR.infl {sh th o} (h : StepR sh th o) (hth : ThOK th) (hle : wInfl th ≤ sh.inflight) :
    o.sh.inflight + wInfl th = sh.inflight + wInfl o.th + wsum wInfl o.new := by
  cases h
  case snap | filterAcc | filterRej | claimed | exit | lockDeadSync | spawn =>
    rename_i hsh
    rw [← hsh.infl]
    simp [wInfl, isSpawn, hsh.new_nil, Nat.add_assoc, *]
  case aend hpc =>
    -- the one step that counts down: the goroutine's own contribution is what keeps `inflight` positive
    simp [ThOK, hpc] at hth
    simp [wInfl, hpc, isSpawn, hth] at hle ⊢
    omega
  case fin hpc hfr hp =>
    simp [ThOK, hpc, hfr] at hth
    simp [wInfl, isSpawn, hpc, hth]
  case subscribe | unsubscribe | clear | cancel | count | wait => rfl
  case bodyPub | bodyEnd | publish | lock | lockDeadJob | enterPub | enterEnd | exitJob | retire | retired | astartSeq |
      astartDead | astartRun | turnDead | turnRun =>
    simp [wInfl, isSpawn, *]

theorem infl_reachable {progs : List (List Op)} : ∀ s, Reachable progs s → s.sh.inflight = wsum wInfl s.ths :=
  reach_wsum (R := fun sh n => sh.inflight = n) (fun _ => by simp [wInfl, isSpawn]) rfl
    (fun s th o hr hm hR m h => by have := hR.infl (thOK_reachable s hr th hm) (by omega); omega)

theorem Shape.executed {sh th f fs PF PC PG o} (h : Shape sh th f fs PF PC PG o) :
    o.sh.executed = sh.executed ∨
      ∃ r l, PC r l ∧ sh.live f.ctx = true ∧ r.once = true ∧ r.rid ∉ sh.executed ∧ o.sh.executed = r.rid :: sh.executed := by
  cases h
  case claimed r l hp ho hne hl => exact .inr ⟨r, l, hp, hl, ho, hne, rfl⟩
  all_goals exact .inl (by simp)

def onceBit (r : Reg) (rid : Nat) : Nat := if r.once = true ∧ r.rid = rid then 1 else 0

/-- the entry the thread still owes the once account of `rid` (`once_reachable`): 1 from the claim of the Once registration
`rid` until the thread, or the goroutine it starts for it, enters the handler or gives up (cancelled context).  Which
registrations a thread refers to is another matter: `Carried` below, the specification's `carriesReg`. -/
def carry (rid : Nat) (th : Thread) : Nat :=
  match th.pc with
  | .claimed r | .spawn r _ _ | .lock r _ => onceBit r rid
  | .astart | .turn => match th.job with
    | some j => onceBit j.reg rid
    | none => 0
  | _ => 0

def exBit (sh : Shared) (rid : Nat) : Nat := if rid ∈ sh.executed then 1 else 0

theorem noteEnter_count (sh : Shared) (r : Reg) (rid : Nat) :
    (sh.noteEnter r).enteredOnce.count rid = sh.enteredOnce.count rid + onceBit r rid := by
  rw [noteEnter_enteredOnce]; unfold onceBit
  by_cases ho : r.once = true <;> by_cases hr : r.rid = rid <;> simp [ho, hr]

/-- `x`: the Once bit of the registration the loop dispatches (carries away or enters), if it stops at a dispatch -/
theorem Shape.once_eq {sh th f fs PF PC PG o} (h : Shape sh th f fs PF PC PG o) (rid : Nat) :
    ∃ x, o.sh.enteredOnce.count rid + carry rid o.th + exBit sh rid = sh.enteredOnce.count rid + exBit o.sh rid + x ∧
      (x = 0 ∨ ∃ r l, PG r l ∧ x = onceBit r rid) := by
  cases h
  case claimed r l _ ho hne _ =>
    refine ⟨0, ?_, .inl rfl⟩
    by_cases hr : r.rid = rid
    · subst hr; simp [carry, exBit, onceBit, ho, hne]
    · have : ¬ rid = r.rid := fun h => hr h.symm
      simp [carry, exBit, onceBit, hr, this]
  case spawn r l hp _ | lock r l hp _ _ _ => exact ⟨onceBit r rid, by simp [carry, exBit]; omega, .inr ⟨r, l, hp, rfl⟩⟩
  case enter r l hp _ _ _ =>
    exact ⟨onceBit r rid, by simp only [carry, exBit, noteEnter_count, noteEnter_executed]; omega, .inr ⟨r, l, hp, rfl⟩⟩
  all_goals exact ⟨0, by simp [carry, exBit], .inl rfl⟩

theorem Shape.once_plain {sh th f fs PF PC PG o} (h : Shape sh th f fs PF PC PG o) (rid : Nat)
    (hPG : ∀ r l, PG r l → r.once = false) :
    o.sh.enteredOnce.count rid + carry rid o.th + exBit sh rid = sh.enteredOnce.count rid + exBit o.sh rid := by
  obtain ⟨x, e, hx⟩ := h.once_eq rid
  have : x = 0 := hx.elim id fun ⟨r, l, hp, e⟩ => by simp [e, onceBit, hPG r l hp]
  omega

/-- with the context alive, the claimed registration is dispatched: spawned, parked at its mutex, or entered -/
theorem afterClaim_live {sh : Shared} {th : Thread} {f : Frame} {fs : List Frame} {r : Reg} {obs : List Obs}
    (hl : sh.live f.ctx = true) (rid : Nat) :
    let o := afterClaim sh th f fs r obs (fuelFor f)
    o.sh.enteredOnce.count rid + carry rid o.th = sh.enteredOnce.count rid + onceBit r rid ∧ o.sh.executed = sh.executed := by
  rw [fuelFor, afterClaim]
  by_cases ha : r.async = true
  · simp [ha, carry]
  · by_cases hs : r.seq = true
    · simp [ha, hs, hl, carry]
    · simp [ha, hs, hl, carry, noteEnter_count]

/-- The once account of one step: an entry that was due is entered, or still due – to the thread or to the goroutine it
starts –, or given up (`d`); and only a step that finds a context cancelled gives one up. -/
theorem StepR.once {sh th o} (h : StepR sh th o) (rid : Nat) :
    ∃ d, o.sh.enteredOnce.count rid + carry rid o.th + wsum (carry rid) o.new + exBit sh rid + d =
        sh.enteredOnce.count rid + carry rid th + exBit o.sh rid ∧
      (step sh th = some o → sh.cancelled = [] → d = 0) := by
  have dead : ∀ {c : Ctx}, sh.live c = false → sh.cancelled = [] → carry rid th = 0 :=
    fun hl hc => by rw [live_of_nil hc] at hl; cases hl
  cases h
  case snap | filterAcc | filterRej | exit =>
    rename_i hsh
    have := hsh.once_plain rid (fun _ _ h => h.2)
    have hc : carry rid th = 0 := by simp [carry, *]
    refine ⟨0, ?_, fun _ _ => rfl⟩
    simp only [hsh.new_nil, wsum_nil, hc]
    simp only [exBit] at this ⊢; omega
  case claimed r0 f fs hpc hfr hsh =>
    -- the loop dispatches the claimed registration, or walks past it
    obtain ⟨x, e, hx⟩ := hsh.once_eq rid
    have : x ≤ onceBit r0 rid := by
      rcases hx with h | ⟨r, l, ⟨rfl, _⟩ | ⟨_, ho⟩, e⟩
      · omega
      · omega
      · simp [e, onceBit, ho]
    have hc : carry rid th = onceBit r0 rid := by simp [carry, hpc]
    refine ⟨onceBit r0 rid - x, by simp only [hsh.new_nil, wsum_nil, hc]; omega, fun hs hc => ?_⟩
    -- `CShape` does not say that it is dispatched when the context is alive: ask `step`
    simp only [step, enabled, hpc, hfr] at hs
    simp at hs
    subst hs
    obtain ⟨h1, h2⟩ := afterClaim_live (th := th) (fs := fs) (r := r0) (obs := []) (live_of_nil hc f.ctx) rid
    simp only [exBit, h2] at e
    omega
  case spawn r0 n t f fs o hpc hfr hsh =>
    -- the entry is now due to the goroutine
    have := hsh.once_plain rid (fun _ _ h => h.2)
    have hc : carry rid th = onceBit r0 rid := by simp [carry, hpc]
    have hg : ∀ j : Job, carry rid { pc := .astart, job := some j } = onceBit j.reg rid := fun j => rfl
    refine ⟨0, ?_, fun _ _ => rfl⟩
    rw [hc]; simp only [wsum_cons, wsum_nil, hg]; omega
  case lockDeadSync hl hsh =>
    have := hsh.once_plain rid (fun _ _ h => h.2)
    exact ⟨carry rid th, by simp only [hsh.new_nil, wsum_nil]; omega, fun _ => dead hl⟩
  case lockDeadJob hl | astartDead hl | turnDead hl => exact ⟨carry rid th, by simp +arith [carry, exBit, *], fun _ => dead hl⟩
  case lock hpc _ _ _ =>
    exact ⟨0, by simp only [carry, hpc, wsum_nil, exBit, noteEnter_count, noteEnter_executed]; omega, fun _ _ => rfl⟩
  case astartRun hpc hj _ _ =>
    exact ⟨0, by simp only [carry, hpc, hj, wsum_nil, exBit, noteEnter_count, noteEnter_executed]; omega, fun _ _ => rfl⟩
  all_goals exact ⟨0, by simp [carry, exBit, *], fun _ _ => rfl⟩

theorem exBit_le_one (sh : Shared) (rid : Nat) : exBit sh rid ≤ 1 := by unfold exBit; split <;> omega

theorem once_reachable {progs : List (List Op)} :
    ∀ s, Reachable progs s → ∀ rid, s.sh.enteredOnce.count rid + wsum (carry rid) s.ths ≤ exBit s.sh rid :=
  fun s hr rid => reach_wsum (R := fun sh n => sh.enteredOnce.count rid + n ≤ exBit sh rid) (fun _ => by simp [carry])
    (by simp) (fun s th o _ _ hR m h => by obtain ⟨d, _, _⟩ := hR.once rid; have := exBit_le_one s.sh rid; omega) s hr

def insideF (rid : Nat) (f : Frame) : Bool :=
  match f.handler with
  | some r => r.seq && r.rid == rid
  | none => false

theorem inside_eq (rid : Nat) (th : Thread) : inside rid th = th.frames.countP (insideF rid) := by
  unfold inside; congr 1

theorem insideF_none {rid : Nat} {f : Frame} (h : f.handler = none) : insideF rid f = false := by
  simp [insideF, h]

theorem Shape.inside {sh th f fs PF PC PG o} (h : Shape sh th f fs PF PC PG o) (rid : Nat) (hf : f.handler = none) :
    inside rid o.th = fs.countP (insideF rid) ∧ o.sh.held = sh.held := by
  cases h <;> simp [inside_eq, insideF, *]

theorem count_release {held : List Nat} {r : Reg} {rid : Nat}
    (hle : (if (r.seq && r.rid == rid) = true then 1 else 0) ≤ held.count rid) :
    (if r.seq = true then held.erase r.rid else held).count rid + (if (r.seq && r.rid == rid) = true then 1 else 0) =
      held.count rid := by
  by_cases hs : r.seq = true
  · by_cases hr : r.rid = rid
    · subst hr; simp [hs] at hle ⊢; have := List.count_pos_iff.2 hle; omega
    · simp [hs, hr, List.count_erase_of_ne (fun h => hr h.symm)]
  · simp [hs]

theorem StepR.inside {sh th o} (h : StepR sh th o) (rid : Nat) (hth : ThOK th)
    (hle : inside rid th ≤ sh.held.count rid) (h1 : sh.held.count rid ≤ 1) :
    (o.sh.held.count rid + inside rid th = sh.held.count rid + inside rid o.th + wsum (inside rid) o.new) ∧
    o.sh.held.count rid ≤ 1 := by
  -- most steps neither take nor give back a mutex, and leave the activations that are inside a handler as they are
  have keep : o.sh.held = sh.held → wsum (Conc.inside rid) o.new = 0 →
      o.th.frames.countP (insideF rid) = th.frames.countP (insideF rid) →
      (o.sh.held.count rid + Conc.inside rid th = sh.held.count rid + Conc.inside rid o.th + wsum (Conc.inside rid) o.new) ∧
        o.sh.held.count rid ≤ 1 := by
    intro e1 e2 e3
    rw [e1, e2, inside_eq, inside_eq, e3]
    exact ⟨rfl, h1⟩
  -- the mutex of `r` is given back as the innermost activation leaves the handler of `r`
  have release : ∀ (r : Reg) (f : Frame) (fs : List Frame), th.frames = f :: fs → f.handler = some r →
      o.sh.held = (if r.seq = true then sh.held.erase r.rid else sh.held) → wsum (Conc.inside rid) o.new = 0 →
      o.th.frames.countP (insideF rid) = fs.countP (insideF rid) →
      (o.sh.held.count rid + Conc.inside rid th = sh.held.count rid + Conc.inside rid o.th + wsum (Conc.inside rid) o.new) ∧
        o.sh.held.count rid ≤ 1 := by
    intro r f fs hfr hh e1 e2 e3
    rw [inside_eq, hfr, List.countP_cons] at hle
    have hf : insideF rid f = (r.seq && r.rid == rid) := by simp [insideF, hh]
    rw [hf] at hle
    have := count_release (held := sh.held) (r := r) (rid := rid) (by omega)
    rw [e1, e2, inside_eq, inside_eq, e3, hfr, List.countP_cons, hf]
    omega
  cases h
  case snap | filterAcc | filterRej | claimed | spawn =>
    rename_i hsh
    have h2 := (hth.top ‹th.frames = _› (by simp [*])).1
    obtain ⟨e1, e2⟩ := hsh.inside rid h2
    exact keep e2 (by simp [hsh.new_nil, Conc.inside]) (by rw [← inside_eq, e1, ‹th.frames = _›]; simp [insideF_none h2])
  case lockDeadSync hpc hfr _ _ _ hsh =>
    have h2 := (hth.lock hpc hfr).2
    obtain ⟨e1, e2⟩ := hsh.inside rid h2
    exact keep e2 (by simp [hsh.new_nil]) (by rw [← inside_eq, e1, hfr]; simp [insideF_none h2])
  case exit r f fs hpc hfr hj hsh =>
    obtain ⟨e1, e2⟩ := hsh.inside rid rfl
    exact release r f fs hfr (hth.handler (.inr hpc) hfr) e2 (by simp [hsh.new_nil]) (by rw [← inside_eq, e1])
  case exitJob r j f hpc hj hfr => exact release r f [] hfr (hth.handler (.inr hpc) hfr) rfl rfl rfl
  case lock r a f fs hpc hfr hfree hl =>
    have hseq : r.seq = true ∧ f.handler = none := hth.lock hpc hfr
    simp only [inside_eq, hfr, List.countP_cons, insideF, hseq.1, hseq.2, wsum_nil]
    by_cases hr : r.rid = rid
    · subst hr
      have : sh.held.count r.rid = 0 := List.count_eq_zero.2 hfree
      simp [this]; omega
    · simp [hr, h1]
  case bodyEnd | fin | subscribe | unsubscribe | clear | cancel | count | wait | enterEnd | astartSeq | astartDead |
      turnDead | aend => exact keep rfl rfl rfl
  case bodyPub hfr _ | enterPub hfr _ => exact keep rfl rfl (by rw [hfr]; rfl)
  case publish hfr _ => exact keep rfl rfl (by rw [hfr]; simp [insideF, newFrame])
  case retire hfr => exact keep rfl rfl (by rw [hfr]; rfl)
  case retired hpc hfr =>
    exact keep rfl rfl (by rw [hfr]; simp [insideF_none (hth.top hfr (by simp [hpc])).1])
  case lockDeadJob hpc _ hfr _ _ =>
    exact keep rfl rfl (by rw [hfr]; simp [insideF_none (hth.lock hpc hfr).2])
  case astartRun hpc _ hs _ =>
    simp only [ThOK, hpc] at hth
    exact keep (by simp) rfl (by rw [hth.2]; simp [insideF, jobFrame, hs])
  case turnRun hpc _ _ _ =>
    simp only [ThOK, hpc] at hth
    exact keep rfl rfl (by rw [hth.2]; simp [insideF, jobFrame])

theorem mutex_reachable {progs : List (List Op)} :
    ∀ s, Reachable progs s → ∀ rid, wsum (inside rid) s.ths = s.sh.held.count rid ∧ s.sh.held.count rid ≤ 1 :=
  fun s hr rid => reach_wsum (R := fun sh n => n = sh.held.count rid ∧ sh.held.count rid ≤ 1) (fun _ => by simp [inside])
    (by simp) (fun s th o hr hm hR m h => by
      have := hR.inside rid (thOK_reachable s hr th hm) (by omega) h.2
      omega) s hr

theorem lookupD_setKV (l : List (Nat × Nat)) (k v k' : Nat) :
    lookupD (setKV l k v) k' = if k' = k then v else lookupD l k' := by
  simp only [lookupD, setKV, Lists.find?_upsert, beq_iff_eq, eq_comm (a := k')]
  by_cases h : k = k' <;> simp only [h, if_true, if_false]

theorem ticketsOf_append (rid : Nat) (l : List (Nat × Nat)) (k t : Nat) :
    ticketsOf rid (l ++ [(k, t)]) = ticketsOf rid l ++ (if k = rid then [t] else []) := by
  unfold ticketsOf
  by_cases h : k = rid <;> simp [List.filter_append, h]

/-- parked outside a handler invocation of its own: not started, waiting for its turn, or finished -/
def idle : Pc → Bool
  | .astart | .turn | .aend | .done => true
  | _ => false

/-- does the thread hold ticket `t` of the Sequential registration `rid` without having taken its turn?  (Tickets of the
ticket lock; the mutexes taken are `Shared.held`.) -/
def hold (rid t : Nat) (th : Thread) : Nat :=
  match th.pc with
  | .spawn r _ t' => if r.seq = true ∧ r.rid = rid ∧ t' = t then 1 else 0
  | .astart | .turn => match th.job with
    | some j => if j.reg.seq = true ∧ j.reg.rid = rid ∧ j.ticket = t then 1 else 0
    | none => 0
  | _ => 0

/-- is the thread an async goroutine of the Sequential registration `rid` that has taken its turn and not released it?
("In progress"; the program of a thread is `Thread.prog`.) -/
def prog (rid : Nat) (th : Thread) : Nat :=
  match th.job with
  | some j => if j.reg.seq = true ∧ j.reg.rid = rid ∧ idle th.pc = false then 1 else 0
  | none => 0

theorem prog_congr {rid : Nat} {th th' : Thread} (hj : th'.job = th.job) (h : idle th'.pc = idle th.pc) :
    prog rid th' = prog rid th := by
  unfold prog; rw [hj, h]

/-- What the loop does to the ticket lock of `rid`: it takes and gives back no turn, and issues `i` tickets – one if it stops
at the "publish.spawn" of a Sequential registration `rid`, none otherwise –: the next one, which the thread then holds.
(The thread keeps its job and is not `idle`.) -/
theorem Shape.tk {sh th f fs PF PC PG o} (h : Shape sh th f fs PF PC PG o) (rid : Nat) :
    o.sh.serving = sh.serving ∧ o.sh.turns = sh.turns ∧ o.th.job = th.job ∧ idle o.th.pc = false ∧
    ∃ i, i ≤ 1 ∧ lookupD o.sh.tickets rid = lookupD sh.tickets rid + i ∧
      ticketsOf rid o.sh.issued = ticketsOf rid sh.issued ++ List.replicate i (lookupD sh.tickets rid) ∧
      ∀ t, hold rid t o.th = if t = lookupD sh.tickets rid then i else 0 := by
  cases h
  case spawn obs r l hp ha =>
    refine ⟨rfl, rfl, rfl, rfl, ?_⟩
    by_cases hs : r.seq = true
    · by_cases hr : r.rid = rid
      · subst hr
        exact ⟨1, Nat.le_refl 1, by simp [hs, lookupD_setKV], by simp [hs, ticketsOf_append],
          fun t => by simp [hold, hs, eq_comm]⟩
      · exact ⟨0, Nat.zero_le 1, by simp [hs, lookupD_setKV, Ne.symm hr], by simp [hs, ticketsOf_append, hr],
          fun t => by simp [hold, hr]⟩
    · exact ⟨0, Nat.zero_le 1, by simp [hs], by simp [hs], fun t => by simp [hold, hs]⟩
  all_goals exact ⟨by simp, by simp, rfl, rfl, 0, Nat.zero_le 1, by simp, by simp, fun t => by simp [hold]⟩

/-- The effect of one step on the ticket lock of registration `rid`: `i` tickets are issued, `u` turns are taken, `s`
turns are given back, each 0 or 1.  A ticket issued is the next one (`lookupD sh.tickets rid`), and who takes a turn holds
the ticket being served (`lookupD sh.serving rid`). -/
inductive TkEff (sh : Shared) (th : Thread) (o : Out) (rid : Nat) : Prop
  | mk (i u s : Nat) (iu : i + u ≤ 1)
      (tickets : lookupD o.sh.tickets rid = lookupD sh.tickets rid + i)
      (issued : ticketsOf rid o.sh.issued = ticketsOf rid sh.issued ++ List.replicate i (lookupD sh.tickets rid))
      (serving : lookupD o.sh.serving rid = lookupD sh.serving rid + s)
      (turns : ticketsOf rid o.sh.turns = ticketsOf rid sh.turns ++ List.replicate u (lookupD sh.serving rid))
      (hh : ∀ t, hold rid t o.th + wsum (hold rid t) o.new + (if t = lookupD sh.serving rid then u else 0) =
        hold rid t th + if t = lookupD sh.tickets rid then i else 0)
      (hp : prog rid o.th + wsum (prog rid) o.new + s = prog rid th + u)

theorem TkEff.quiet {sh th sh' th' obs rid} (h1 : lookupD sh'.tickets rid = lookupD sh.tickets rid)
    (h2 : ticketsOf rid sh'.issued = ticketsOf rid sh.issued) (h3 : lookupD sh'.serving rid = lookupD sh.serving rid)
    (h4 : ticketsOf rid sh'.turns = ticketsOf rid sh.turns)
    (hh : ∀ t, hold rid t th' = hold rid t th) (hp : prog rid th' = prog rid th) : TkEff sh th ⟨sh', th', [], obs⟩ rid :=
  ⟨0, 0, 0, Nat.zero_le 1, h1, by simpa using h2, h3, by simpa using h4, by simpa using hh, hp⟩

/-- A step that runs the loop issues a ticket if the loop stops at "publish.spawn" and leaves the ticket lock alone
otherwise.  The step goes from `sh0` to `o'`, the loop from `sh` to `o`: they differ in two steps, "publish.spawn", which
adds the goroutine it starts to `new`, and "handler.exit", which runs the loop after it has given the mutex back (`held`). -/
theorem TkEff.of_shape {sh sh0 th f fs PF PC PG o} (hS : Shape sh th f fs PF PC PG o) (o' : Out) (rid : Nat)
    (es : o'.sh = o.sh) (et : o'.th = o.th)
    (e1 : sh.tickets = sh0.tickets) (e2 : sh.issued = sh0.issued) (e3 : sh.serving = sh0.serving) (e4 : sh.turns = sh0.turns)
    (hidle : idle th.pc = false) (hnewp : wsum (prog rid) o'.new = 0)
    (hnewh : ∀ t, wsum (hold rid t) o'.new = hold rid t th) : TkEff sh0 th o' rid := by
  obtain ⟨h3, h4, hj, hi, i, hi1, h1, h2, hh⟩ := hS.tk rid
  refine ⟨i, 0, 0, hi1, by rw [es, h1, e1], by rw [es, h2, e2, e1], by rw [es, h3, e3]; rfl, by rw [es, h4, e4]; simp, ?_, ?_⟩
  · intro t; rw [et, hh, hnewh, e1]; simp only [ite_self]; omega
  · rw [hnewp, et, prog_congr hj (hi.trans hidle.symm)]

theorem hold_job {th : Thread} {j : Job} (hpc : th.pc = .astart ∨ th.pc = .turn) (hj : th.job = some j)
    (hs : j.reg.seq = true) (rid t : Nat) : hold rid t th = if rid = j.reg.rid ∧ t = j.ticket then 1 else 0 := by
  rcases hpc with hpc | hpc <;>
  · simp only [hold, hpc, hj, hs, true_and]
    by_cases h1 : rid = j.reg.rid <;> simp [h1, eq_comm]

theorem prog_job {th : Thread} {j : Job} (hj : th.job = some j) (hs : j.reg.seq = true) (hi : idle th.pc = false)
    (rid : Nat) : prog rid th = if rid = j.reg.rid then 1 else 0 := by
  simp only [prog, hj, hs, hi, true_and, and_true]
  by_cases h1 : rid = j.reg.rid <;> simp [h1, eq_comm]

theorem prog_lockT {th : Thread} {r : Reg} (hok : ThOK th) (hpc : th.pc = .lock r true) : prog r.rid th = 1 := by
  obtain ⟨hrs, j, hj, rfl⟩ := hok.lockT hpc
  rw [prog_job hj hrs (by rw [hpc]; rfl), if_pos rfl]

theorem StepR.tk {sh th o} (h : StepR sh th o) (hth : ThOK th) (rid : Nat) : TkEff sh th o rid := by
  cases h
  case snap | filterAcc | filterRej | claimed | exit | lockDeadSync =>
    rename_i hsh
    exact .of_shape hsh _ rid rfl rfl rfl rfl rfl rfl (by simp [idle, *]) (by simp [hsh.new_nil])
      (by simp [hsh.new_nil, hold, *])
  case spawn hpc _ hsh =>
    exact .of_shape hsh _ rid rfl rfl rfl rfl rfl rfl (by simp [idle, hpc]) (by simp [prog, idle]) (by simp [hold, hpc])
  case turnRun j hpc hj hturn hl =>
    have hs := hth.turn hpc hj
    by_cases hr : rid = j.reg.rid
    · subst hr
      exact ⟨0, 1, 0, Nat.le_refl 1, rfl, by simp, rfl, by simp [ticketsOf_append, hturn],
        fun t => by rw [hold_job (.inr hpc) hj hs]; simp [hold, hturn], by simp [prog, hj, hs, idle, hpc]⟩
    · exact .quiet rfl rfl rfl (by simp [ticketsOf_append, Ne.symm hr])
        (fun t => by rw [hold_job (.inr hpc) hj hs]; simp [hold, hr]) (by simp [prog, hj, hs, idle, hpc, Ne.symm hr])
  case turnDead j hpc hj hturn hl =>
    -- skipped: the goroutine gives its turn back at once
    have hs := hth.turn hpc hj
    by_cases hr : rid = j.reg.rid
    · subst hr
      exact ⟨0, 1, 1, Nat.le_refl 1, rfl, by simp, by simp [lookupD_setKV], by simp [ticketsOf_append, hturn],
        fun t => by rw [hold_job (.inr hpc) hj hs]; simp [hold, hturn], by simp [prog, hj, hpc, idle]⟩
    · exact .quiet rfl rfl (by simp [lookupD_setKV, hr]) (by simp [ticketsOf_append, Ne.symm hr])
        (fun t => by rw [hold_job (.inr hpc) hj hs]; simp [hold, hr]) (prog_congr rfl (by simp [idle, hpc]))
  case exitJob j _ hpc hj _ | lockDeadJob j _ hpc hj _ _ _ =>
    -- the goroutine leaves its delivery: if the registration is Sequential, it gives its turn back
    by_cases hs : j.reg.seq = true
    · by_cases hr : rid = j.reg.rid
      · subst hr
        exact ⟨0, 0, 1, Nat.zero_le 1, rfl, by simp, by simp [hs, lookupD_setKV], by simp, fun t => by simp [hold, hpc],
          by rw [prog_job hj hs (by simp [hpc, idle])]; simp [prog, hj, idle]⟩
      · exact .quiet rfl rfl (by simp [hs, lookupD_setKV, hr]) rfl (fun t => by simp [hold, hpc])
          (by simp [prog, hj, idle, Ne.symm hr])
    · exact .quiet rfl rfl (by simp [hs]) rfl (fun t => by simp [hold, hpc]) (by simp [prog, hj, hs])
  case fin hpc hfr hp =>
    simp [ThOK, hpc, hfr] at hth
    exact .quiet rfl rfl rfl rfl (fun t => by simp [hold, hpc]) (by simp [prog, hth])
  case lock hpc _ _ _ =>
    exact .quiet (by simp) (by simp) (by simp) (by simp) (fun t => by simp [hold, hpc]) (prog_congr rfl (by simp [idle, hpc]))
  case astartRun hpc hj hs _ =>
    exact .quiet (by simp) (by simp) (by simp) (by simp) (fun t => by simp [hold, hpc, hj, hs])
      (by simp [prog, idle, hpc, hj, hs])
  case bodyPub | bodyEnd | subscribe | unsubscribe | clear | cancel | count | wait | publish | enterPub | enterEnd |
      retire | retired | astartSeq | astartDead | aend =>
    exact .quiet rfl rfl rfl rfl (fun t => by simp [hold, *]) (prog_congr rfl (by simp [idle, *]))

/-- `TkX` (below) without `one`, and with `holders` for `held`: `TkX.held` less "every ticket not yet served has a holder"
(`TkX.tkInv`) -/
structure TkInv (sh : Shared) (ths : List Thread) (rid : Nat) : Prop where
  issued : ticketsOf rid sh.issued = List.range (lookupD sh.tickets rid)
  turns : ticketsOf rid sh.turns = List.range (lookupD sh.serving rid + wsum (prog rid) ths)
  le : lookupD sh.serving rid + wsum (prog rid) ths ≤ lookupD sh.tickets rid
  holders : ∀ t, wsum (hold rid t) ths ≤ 1 ∧
    (1 ≤ wsum (hold rid t) ths → lookupD sh.serving rid + wsum (prog rid) ths ≤ t ∧ t < lookupD sh.tickets rid)

/-- the ticket lock of registration `rid`: tickets are issued and turns are taken in order, at most one goroutine is in
its turn, and the tickets not yet served are each held by exactly one thread -/
structure TkX (sh : Shared) (ths : List Thread) (rid : Nat) : Prop where
  issued : ticketsOf rid sh.issued = List.range (lookupD sh.tickets rid)
  turns : ticketsOf rid sh.turns = List.range (lookupD sh.serving rid + wsum (prog rid) ths)
  le : lookupD sh.serving rid + wsum (prog rid) ths ≤ lookupD sh.tickets rid
  one : wsum (prog rid) ths ≤ 1
  held : ∀ t, wsum (hold rid t) ths =
    if lookupD sh.serving rid + wsum (prog rid) ths ≤ t ∧ t < lookupD sh.tickets rid then 1 else 0

theorem TkX.tkInv {sh ths rid} (h : TkX sh ths rid) : TkInv sh ths rid :=
  ⟨h.issued, h.turns, h.le, fun t => by have := h.held t; split at this <;> omega⟩

theorem TkX.cover {sh ths rid} (h : TkX sh ths rid) {t : Nat} (h1 : lookupD sh.serving rid + wsum (prog rid) ths ≤ t)
    (h2 : t < lookupD sh.tickets rid) : 1 ≤ wsum (hold rid t) ths := by
  rw [h.held t, if_pos ⟨h1, h2⟩]; omega

/-- the window of the tickets not yet served: a ticket issued joins it at the upper end -/
theorem window_issue {W T t x : Nat} (hW : W ≤ T)
    (h : x = (if W ≤ t ∧ t < T then 1 else 0) + if t = T then 1 else 0) : x = if W ≤ t ∧ t < T + 1 then 1 else 0 := by
  by_cases ht : t = T
  · subst ht; rw [h, if_neg (by omega), if_pos rfl, if_pos ⟨hW, Nat.lt_succ_self _⟩]
  · rw [h, if_neg ht, Nat.add_zero]; congr 1; exact propext ⟨fun h => ⟨h.1, by omega⟩, fun h => ⟨h.1, by omega⟩⟩

/-- the ticket whose turn is taken leaves the window at the lower end -/
theorem window_turn {W T t x : Nat} (hW : W < T)
    (h : x + (if t = W then 1 else 0) = if W ≤ t ∧ t < T then 1 else 0) : x = if W + 1 ≤ t ∧ t < T then 1 else 0 := by
  by_cases ht : t = W
  · subst ht; rw [if_pos rfl, if_pos ⟨Nat.le_refl _, hW⟩] at h; rw [if_neg (by omega)]; omega
  · rw [if_neg ht, Nat.add_zero] at h; rw [h]; congr 1; exact propext ⟨fun h => ⟨by omega, h.2⟩, fun h => ⟨by omega, h.2⟩⟩

theorem TkX.step {sh : Shared} {ths : List Thread} {k : Nat} {th : Thread} {o : Out} {rid : Nat}
    (hth : ths[k]? = some th) (he : TkEff sh th o rid) (hi : TkX sh ths rid) :
    TkX o.sh (ths.set k o.th ++ o.new) rid := by
  obtain ⟨i, u, s, iu, hT, hI, hS, hU, hh, hp⟩ := he
  obtain ⟨i1, i2, i3, i5, i4⟩ := hi
  have eP := wsum_step (prog rid) hth hp
  have eH := fun t => wsum_step (hold rid t) hth (hh t)
  have eW : lookupD o.sh.serving rid + wsum (prog rid) (ths.set k o.th ++ o.new) =
      lookupD sh.serving rid + wsum (prog rid) ths + u := by omega
  obtain h | h := Nat.le_one_iff_eq_zero_or_eq_one.1 iu
  · obtain ⟨rfl, rfl⟩ := Nat.add_eq_zero_iff.1 h
    simp only [ite_self, Nat.add_zero, List.replicate_zero, List.append_nil] at eH eW hI hU hT
    exact ⟨by rw [hI, hT]; exact i1, by rw [hU, eW]; exact i2, by rw [eW, hT]; exact i3, by omega,
      fun t => by rw [eW, hT, eH]; exact i4 t⟩
  obtain ⟨rfl, rfl⟩ | ⟨rfl, rfl⟩ := Nat.add_eq_one_iff.1 h
  · -- who takes a turn holds the ticket being served: it is the first of those not yet served, and nobody is in its turn
    have h1 := hh (lookupD sh.serving rid)
    have h2 := wsum_ge (hold rid (lookupD sh.serving rid)) hth
    have h3 := i4 (lookupD sh.serving rid)
    simp only [ite_self, if_true, Nat.add_zero, List.replicate_zero, List.append_nil] at eH hI hT h1
    split at h3
    case isFalse => omega
    rename_i hwin
    have h0 : wsum (prog rid) ths = 0 := by omega
    rw [h0, Nat.add_zero] at eW i2 i4
    exact ⟨by rw [hI, hT]; exact i1, by rw [hU, eW, i2]; simp [List.range_succ], by rw [eW, hT]; omega, by omega,
      fun t => by rw [eW, hT]; exact window_turn hwin.2 (by rw [eH, i4])⟩
  · simp only [ite_self, Nat.add_zero, List.replicate_zero, List.append_nil] at eH eW hU
    exact ⟨by rw [hI, hT, i1]; simp [List.range_succ], by rw [hU, eW]; exact i2, by rw [eW, hT]; omega, by omega,
      fun t => by rw [eW, hT]; exact window_issue i3 (by rw [eH, i4])⟩

theorem tkX_reachable {progs : List (List Op)} : ∀ s, Reachable progs s → ∀ rid, TkX s.sh s.ths rid := by
  apply reach_ind
  · intro rid
    have hp : wsum (prog rid) (initSys progs).ths = 0 := wsum_init _ _ (fun p => by simp [prog])
    have hh : ∀ t, wsum (hold rid t) (initSys progs).ths = 0 := fun t => wsum_init _ _ (fun p => by simp [hold])
    refine ⟨?_, ?_, ?_, ?_, ?_⟩
    · simp [initSys, ticketsOf, lookupD]
    · rw [hp]; simp [initSys, ticketsOf, lookupD]
    · rw [hp]; simp [initSys, lookupD]
    · rw [hp]; omega
    · intro t; rw [hh, hp]; simp [initSys, lookupD]
  · intro s k th o hr hi hth _ hR rid
    exact TkX.step hth (hR.tk (thOK_reachable s hr th (List.mem_of_getElem? hth)) rid) (hi rid)

def FrAll (S : Reg → Prop) (g : Frame) : Prop :=
  (∀ x ∈ g.rest, S x) ∧ ∀ r, g.handler = some r → S r

/-- every registration the thread carries – in an activation, at its program counter, as the job of an unfinished
goroutine – satisfies `S`.  The specification's `carriesReg rid th = false` is `Carried (·.rid ≠ rid) th` (`carries_iff`);
`carry` above is something else, the once claim a thread has on it. -/
structure Carried (S : Reg → Prop) (th : Thread) : Prop where
  frames : ∀ g ∈ th.frames, FrAll S g
  pc : ∀ r, pcReg th.pc = some r → S r
  job : th.pc ≠ .done → ∀ j, th.job = some j → S j.reg

theorem Carried.mono {S S' : Reg → Prop} {th : Thread} (h : Carried S th) (hS : ∀ r, S r → S' r) : Carried S' th :=
  ⟨fun g hg => ⟨fun x hx => hS x ((h.frames g hg).1 x hx), fun r hr => hS r ((h.frames g hg).2 r hr)⟩,
   fun r hr => hS r (h.pc r hr), fun hd j hj => hS _ (h.job hd j hj)⟩

theorem FrAll.upd {S : Reg → Prop} {f f' : Frame} (h : FrAll S f) (h1 : f'.rest = f.rest) (h2 : f'.handler = f.handler) :
    FrAll S f' := by
  unfold FrAll at h ⊢
  rw [h1, h2]; exact h

theorem newFrame_all {S : Reg → Prop} {sh : Shared} (hregs : ∀ r ∈ sh.regs, S r) (ty v : Nat) (ctx : Ctx) :
    FrAll S (newFrame sh ty v ctx) := by
  refine ⟨?_, by simp [newFrame]⟩
  intro x hx
  simp [newFrame] at hx
  exact hregs x hx.1

theorem Shape.carried {sh th f fs o} {S : Reg → Prop}
    (h : Shape sh th f fs (fun r l => S r ∧ ∀ x ∈ l, S x) (fun r l => S r ∧ ∀ x ∈ l, S x)
      (fun r l => S r ∧ ∀ x ∈ l, S x) o)
    (hh : ∀ r, f.handler = some r → S r) (hfs : ∀ g ∈ fs, FrAll S g)
    (hjob : ∀ j, th.job = some j → S j.reg) : Carried S o.th := by
  have key : ∀ (f' : Frame) (pc : Pc), (∀ x ∈ f'.rest, S x) → (∀ r, f'.handler = some r → S r) →
      (∀ r, pcReg pc = some r → S r) → Carried S { th with frames := f' :: fs, pc := pc } := by
    intro f' pc h1 h2 h3
    refine ⟨?_, h3, fun _ => hjob⟩
    intro g hg
    simp only [List.mem_cons] at hg
    rcases hg with rfl | hg
    · exact ⟨h1, h2⟩
    · exact hfs g hg
  cases h
  case ret => exact ⟨hfs, by simp [pcReg], fun _ => hjob⟩
  case retire => exact key _ _ (by simp) hh (by simp [pcReg])
  case filter hp _ | claimed hp _ _ _ | spawn hp _ | lock hp _ _ _ =>
    exact key _ _ hp.2 hh (by simp only [pcReg, Option.some.injEq]; rintro _ rfl; exact hp.1)
  case enter hp _ _ _ =>
    exact key _ _ hp.2 (by simp only [Option.some.injEq]; rintro _ rfl; exact hp.1)
      (by simp only [pcReg, Option.some.injEq]; rintro _ rfl; exact hp.1)

theorem StepR.carried {sh th o} {S : Reg → Prop} (h : StepR sh th o) (hregs : ∀ r ∈ sh.regs, S r) (hth : Carried S th) :
    Carried S o.th := by
  obtain ⟨hfr, hpc, hjob⟩ := hth
  have hnew := newFrame_all hregs
  have split : ∀ f fs, th.frames = f :: fs → FrAll S f ∧ ∀ g ∈ fs, FrAll S g := by
    intro f fs e
    rw [e] at hfr
    exact ⟨hfr f (by simp), fun g hg => hfr g (by simp [hg])⟩
  cases h
  case snap | filterRej | spawn | lockDeadSync =>
    rename_i hsh
    obtain ⟨⟨a, b⟩, c⟩ := split _ _ ‹th.frames = _›
    exact (hsh.stops fun _ _ h => h.all a).carried b c (hjob (by simp [*]))
  case filterAcc hpc' hfr' _ hsh | claimed hpc' hfr' hsh =>
    obtain ⟨⟨a, b⟩, c⟩ := split _ _ hfr'
    exact (hsh.stops (fun _ _ h => h.all a) ⟨hpc _ (by simp [hpc', pcReg]), a⟩).carried b c (hjob (by simp [hpc']))
  case exit hpc' hfr' _ hsh =>
    obtain ⟨⟨a, _⟩, c⟩ := split _ _ hfr'
    exact (hsh.stops fun _ _ h => h.all a).carried (by simp) c (hjob (by simp [hpc']))
  case bodyPub hpc' hfr' _ | enterPub hpc' hfr' _ =>
    obtain ⟨a, c⟩ := split _ _ hfr'
    refine ⟨?_, by simp [pcReg], fun _ => hjob (by simp [hpc'])⟩
    simp only [List.forall_mem_cons]
    exact ⟨hnew _ _ _, a.upd rfl rfl, c⟩
  case publish hpc' _ _ =>
    refine ⟨?_, by simp [pcReg], fun _ => hjob (by simp [hpc'])⟩
    simp only [List.forall_mem_cons]
    exact ⟨hnew _ _ _, by simp⟩
  case bodyEnd hpc' hfr' _ hh =>
    refine ⟨hfr, ?_, fun _ => hjob (by simp [hpc'])⟩
    simp only [pcReg, Option.some.injEq]
    rintro _ rfl
    exact (split _ _ hfr').1.2 _ hh
  case enterEnd hpc' _ _ =>
    refine ⟨hfr, ?_, fun _ => hjob (by simp [hpc'])⟩
    simp only [pcReg, Option.some.injEq]; rintro _ rfl; exact hpc _ (by simp [hpc', pcReg])
  case lock r _ _ _ hpc' hfr' _ _ =>
    obtain ⟨a, c⟩ := split _ _ hfr'
    have hr := hpc r (by simp [hpc', pcReg])
    refine ⟨?_, ?_, fun _ => hjob (by simp [hpc'])⟩
    · simp only [List.forall_mem_cons]
      exact ⟨⟨a.1, by simp only [Option.some.injEq]; rintro _ rfl; exact hr⟩, c⟩
    · simp only [pcReg, Option.some.injEq]; rintro _ rfl; exact hr
  case retire hpc' hfr' =>
    obtain ⟨a, c⟩ := split _ _ hfr'
    refine ⟨?_, by simp [pcReg], fun _ => hjob (by simp [hpc'])⟩
    simp only [List.forall_mem_cons]
    exact ⟨a.upd rfl rfl, c⟩
  case retired hpc' hfr' => exact ⟨(split _ _ hfr').2, by simp [pcReg], fun _ => hjob (by simp [hpc'])⟩
  case lockDeadJob hpc' _ _ _ _ | exitJob hpc' _ _ => exact ⟨by simp, by simp [pcReg], fun _ => hjob (by simp [hpc'])⟩
  case astartRun j hpc' hj _ _ =>
    have hr := hjob (by simp [hpc']) j hj
    refine ⟨?_, ?_, fun _ => hjob (by simp [hpc'])⟩
    · simp only [List.forall_mem_cons]
      exact ⟨⟨by simp [jobFrame], by simp only [jobFrame, if_true, Option.some.injEq]; rintro _ rfl; exact hr⟩, by simp⟩
    · simp only [pcReg, Option.some.injEq]; rintro _ rfl; exact hr
  case turnRun j hpc' hj _ _ =>
    have hr := hjob (by simp [hpc']) j hj
    refine ⟨?_, ?_, fun _ => hjob (by simp [hpc'])⟩
    · simp only [List.forall_mem_cons]
      exact ⟨⟨by simp [jobFrame], by simp [jobFrame]⟩, by simp⟩
    · simp only [pcReg, Option.some.injEq]; rintro _ rfl; exact hr
  case subscribe | unsubscribe | clear | cancel | count | wait => exact ⟨hfr, hpc, hjob⟩
  case fin | aend => exact ⟨hfr, by simp [pcReg], fun h => absurd rfl h⟩
  case astartSeq hpc' _ _ | astartDead hpc' _ _ _ | turnDead hpc' _ _ _ =>
    exact ⟨hfr, by simp [pcReg], fun _ => hjob (by simp [hpc'])⟩

theorem StepR.carried_new {sh th o} {S : Reg → Prop} (h : StepR sh th o) (hth : Carried S th) : ∀ t ∈ o.new, Carried S t := by
  intro t ht
  rcases h.new_spawn with e | ⟨r, n, tk, f, fs, hpc, _, e⟩ <;> rw [e] at ht
  · cases ht
  · rw [List.mem_singleton.1 ht]
    refine ⟨by simp, by simp [pcReg], ?_⟩
    intro _ j' hj'
    cases hj'
    exact hth.pc _ (by simp [hpc, pcReg])

end Inv

open Ebu.Conc.Inv

/-- no subscription is lost or duplicated: every registration ever created is either still
registered or was removed exactly once; registration identities are unique -/
theorem registry_accounting (progs : List (List Op)) (s : Sys) (h : Reachable progs s) :
    s.sh.regs.length + s.sh.removed = s.sh.nextRid ∧ (s.sh.regs.map (·.rid)).Nodup ∧
    ∀ r ∈ s.sh.regs, r.rid < s.sh.nextRid :=
  regInv_reachable s h

/-- a publish takes its snapshot from the registry as it is at that step: exactly the
registrations of the published type, in subscription order -/
theorem publish_takes_current_registry (sh : Shared) (th : Thread) (ty v : Nat) (ctx : Ctx) (prog : List Op)
    (hpc : th.pc = .op) (hfr : th.frames = []) (hprog : th.prog = .publish ty v ctx :: prog) :
    ∃ o f, step sh th = some o ∧ o.th.frames = [f] ∧ o.th.pc = .snap ∧ o.sh = sh ∧
      f.snapshot = sh.regs.filter (fun r => r.ty == ty) ∧ f.rest = f.snapshot ∧ f.v = v ∧ f.ty = ty := by
  refine ⟨⟨sh, { th with prog := prog, frames := [newFrame sh ty v ctx], pc := .snap }, [], []⟩, newFrame sh ty v ctx,
    ?_, rfl, rfl, rfl, rfl, rfl, rfl, rfl⟩
  simp [step, enabled, hpc, hfr, hprog]

/-- every activation only ever dispatches what is left of its own snapshot: the entries still
to be dispatched are a suffix of the snapshot (so each entry is dispatched at most once, in
order), and the snapshot holds registrations of the published type only -/
theorem dispatch_within_snapshot (progs : List (List Op)) (s : Sys) (h : Reachable progs s) :
    ∀ th ∈ s.ths, ∀ f ∈ th.frames, f.rest <:+ f.snapshot ∧ ∀ r ∈ f.snapshot, r.ty = f.ty ∧ r.rid < s.sh.nextRid :=
  fun th hth f hf => ⟨(frOK_reachable s h th hth f hf).1, (frOK_reachable s h th hth f hf).2⟩

/-- however the threads interleave, the handler of a Once registration is entered at most once -/
theorem once_at_most_once (progs : List (List Op)) (s : Sys) (h : Reachable progs s) (rid : Nat) :
    s.sh.enteredOnce.count rid ≤ 1 := by
  have h1 := once_reachable s h rid
  have h2 := exBit_le_one s.sh rid
  omega

/-- the handler of a Once registration is entered only after its compare-and-swap succeeded -/
theorem once_entered_was_claimed (progs : List (List Op)) (s : Sys) (h : Reachable progs s) (rid : Nat)
    (he : rid ∈ s.sh.enteredOnce) : rid ∈ s.sh.executed := by
  have h1 := once_reachable s h rid
  have h2 : 0 < s.sh.enteredOnce.count rid := List.count_pos_iff.2 he
  unfold exBit at h1
  split at h1
  · assumption
  · omega

/-- a delivery step whose filter rejects the event does not use the registration up -/
theorem filter_reject_not_consumed (sh : Shared) (th : Thread) (r : Reg) (f : Frame) (fs : List Frame) (o : Out)
    (hpc : th.pc = .filter r) (hfr : th.frames = f :: fs) (hrej : r.accepts f.v = false)
    (hstep : step sh th = some o) (hfresh : r.rid ∉ f.rest.map (·.rid)) (hno : r.rid ∉ sh.executed) :
    r.rid ∉ o.sh.executed := by
  simp only [step, enabled, hpc, hfr, hrej] at hstep
  simp at hstep
  subst hstep
  rcases (dispatch_shape sh th f fs [.filt r.rid f.v false] f rfl).executed with h | ⟨r', l, hp, _, _, _, h⟩
  · rw [h]; exact hno
  · rw [h]
    have hmem : r' ∈ f.rest := hp.subset (by simp)
    intro hc
    simp at hc
    rcases hc with hc | hc
    · exact hfresh (hc ▸ List.mem_map_of_mem hmem)
    · exact hno hc

/-- a delivery step that finds the publish context cancelled does not use the registration up -/
theorem cancelled_not_consumed (sh : Shared) (th : Thread) (r : Reg) (f : Frame) (fs : List Frame) (o : Out)
    (hpc : th.pc = .filter r) (hfr : th.frames = f :: fs) (hdead : sh.live f.ctx = false)
    (hstep : step sh th = some o) (hno : r.rid ∉ sh.executed) :
    o.sh.executed = sh.executed := by
  have _ := hno  -- part of the statement, not needed
  simp only [step, enabled, hpc, hfr] at hstep
  simp at hstep
  split at hstep
  · cases hstep
    rcases (afterFilter_shape sh th f fs [.filt r.rid f.v true] r).executed with h | ⟨_, _, _, hl, _⟩
    · exact h
    · rw [hdead] at hl; cases hl
  · cases hstep
    rcases (dispatch_shape sh th f fs [.filt r.rid f.v false] f rfl).executed with h | ⟨_, _, _, hl, _⟩
    · exact h
    · rw [hdead] at hl; cases hl

/-- `bus.wg` counts exactly the async goroutines that exist and are not finished, plus those a
publisher has counted in and is about to start -/
theorem inflight_counts (progs : List (List Op)) (s : Sys) (h : Reachable progs s) :
    s.sh.inflight = liveJobs s + pendingSpawns s := by
  rw [infl_eq]; exact infl_reachable s h

/-- `Wait` returns only when no async invocation is unfinished – whoever published it,
including handlers publishing from handlers -/
theorem wait_returns_only_when_idle (progs : List (List Op)) (s s' : Sys) (h : Reachable progs s) (i : Nat)
    (th : Thread) (prog : List Op) (hth : s.ths[i]? = some th) (hpc : th.pc = .op) (hfr : th.frames = [])
    (hprog : th.prog = .wait :: prog) (hstep : s.stepAt i = some s') :
    liveJobs s = 0 ∧ pendingSpawns s = 0 := by
  have h1 := infl_reachable s h
  rw [← infl_eq] at h1
  have h2 : s.sh.inflight = 0 := by
    unfold Sys.stepAt at hstep
    rw [hth] at hstep
    simp only [step, enabled, hpc, hfr, hprog] at hstep
    by_cases h0 : s.sh.inflight = 0
    · exact h0
    · simp [h0] at hstep
  omega

theorem sumNat_eq_sum (l : List Nat) : sumNat l = l.sum :=
  List.sum_eq_foldl_nat.symm

/-- invocations of a Sequential registration never overlap: at most one activation is inside it,
and exactly when its mutex is held -/
theorem seq_mutex (progs : List (List Op)) (s : Sys) (h : Reachable progs s) (rid : Nat) :
    sumNat (s.ths.map (inside rid)) = s.sh.held.count rid ∧ s.sh.held.count rid ≤ 1 := by
  rw [sumNat_eq_sum]
  exact mutex_reachable s h rid

/-- Async+Sequential: tickets are handed out 0,1,2,… in dispatch order -/
theorem tickets_in_dispatch_order (progs : List (List Op)) (s : Sys) (h : Reachable progs s) (rid : Nat) :
    ticketsOf rid s.sh.issued = List.range (ticketsOf rid s.sh.issued).length := by
  have h1 := (tkX_reachable s h rid).issued
  rw [h1, List.length_range]

/-- Async+Sequential: turns are taken 0,1,2,… in the order of the tickets: the k-th event dispatched to the
registration is the k-th one processed (publish order is preserved) -/
theorem turns_in_ticket_order (progs : List (List Op)) (s : Sys) (h : Reachable progs s) (rid : Nat) :
    ticketsOf rid s.sh.turns = List.range (ticketsOf rid s.sh.turns).length ∧
    (ticketsOf rid s.sh.turns).length ≤ (ticketsOf rid s.sh.issued).length := by
  obtain ⟨h1, h2, h3, _⟩ := tkX_reachable s h rid
  rw [h1, h2, List.length_range, List.length_range]
  exact ⟨rfl, h3⟩

end Ebu.Conc
