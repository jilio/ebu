import Ebu.Model.Shutdown
/-! `EventBus.Shutdown` (M2s, C06): what it has done when it returns, by outcome, and when it blocks. -/
namespace Ebu.Shutdown

/-- Shutdown returns nil only when no asynchronous work is in flight, and only then – and
exactly once – closes the store; when it returns the context's error it has not closed it -/
theorem shutdown_spec (s s' : S) (pick : Bool) (o : Outcome) (h : shutdown s pick = some (s', o)) :
    (o = .nil_ ∨ o = .closeError → s.inflight = 0 ∧ s'.closes = s.closes + (if s.hasCloser then 1 else 0)) ∧
    (o = .ctxError → s.cancelled = true ∧ s' = s) ∧ s'.inflight = s.inflight := by
  unfold shutdown at h
  split at h
  · rename_i hc
    split at h
    · rename_i hcl
      simp at h
      obtain ⟨rfl, rfl⟩ := h
      refine ⟨fun _ => ⟨hc.1, by simp [hcl]⟩, ?_, rfl⟩
      intro ho; split at ho <;> simp at ho
    · rename_i hcl
      simp at h
      obtain ⟨rfl, rfl⟩ := h
      refine ⟨fun _ => ⟨hc.1, by simp [hcl]⟩, ?_, rfl⟩
      intro ho; simp at ho
  · split at h
    · rename_i hcan
      simp at h
      obtain ⟨rfl, rfl⟩ := h
      exact ⟨fun ho => by rcases ho with ho | ho <;> simp at ho, fun _ => ⟨hcan, rfl⟩, rfl⟩
    · simp at h

/-- … and it blocks exactly while work is in flight and the context is live -/
theorem shutdown_blocks_iff (s : S) (pick : Bool) :
    shutdown s pick = none ↔ (s.inflight ≠ 0 ∧ s.cancelled = false) := by
  unfold shutdown
  split
  · rename_i h
    split <;> simp [h.1]
  · rename_i h
    cases hc : s.cancelled
    · simpa [hc] using h
    · simp

end Ebu.Shutdown
