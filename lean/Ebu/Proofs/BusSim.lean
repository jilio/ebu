import Ebu.Proofs.BusEq
/-!
One simulation between two bus machines, walked once over the pieces of `BusEq`: the registries (possibly of different
implementations) related by `ρ`, the cores by `E`, under the laws `Sim.OK`.  Two instances: the same machine under two
fault scripts (`ρ` equality, `E` equality of `norm`: `BusPersist`), and the sharded registry against the flat one under
the same script (`E` equality: `BusRefine`).
-/
namespace Ebu.Bus

namespace Persist

/-- forget everything a store fault may change -/
def norm (c : Core) : Core :=
  { c with log := [], lastOffset := 0, appendFaults := [],
           rtrace := c.rtrace.filter (fun e => !isPersistEv e) }

/-- `f` is a congruence for `norm`: it acts on what `norm` keeps -/
def NC (f : Core → Core) : Prop := ∀ c c', norm c = norm c' → norm (f c) = norm (f c')

theorem NC.of_comm {f g : Core → Core} (h : ∀ c, norm (f c) = g (norm c)) : NC f :=
  fun c c' hc => by rw [h, h, hc]

theorem NC.emits (l : List Ev) : NC (fun c => { c with rtrace := l.reverse ++ c.rtrace }) :=
  .of_comm (g := fun c => { c with rtrace := l.reverse.filter (fun e => !isPersistEv e) ++ c.rtrace })
    fun c => by simp [norm]

theorem NC.emit (e : Ev) : NC (·.emit e) := NC.emits [e]

theorem NC.emitIf (b : Bool) (e : Ev) : NC (emitIf b · e) := by
  cases b
  · exact fun _ _ h => h
  · exact NC.emit e

theorem persistEvs_norm (cfg : Config) (d ty v : Nat) (bad : Bool) (op : Nat) (c : Core) :
    (persistEvs cfg d ty v bad op c).filter (fun e => !isPersistEv e) =
      if cfg.store.isSome && !bad && cfg.obs then [.obs d .rs c.nextObs op ty false] else [] := by
  unfold persistEvs appendEvs
  generalize c.appendFaults.headD false = fails
  cases cfg.store <;> cases bad <;> cases cfg.obs <;> cases cfg.perrH <;> cases fails <;> rfl

theorem persist_norm (cfg : Config) (d ty v : Nat) (bad : Bool) (op : Nat) : NC (persist cfg d ty v bad op) := by
  refine .of_comm (g := fun c => { c with
    rtrace := (if cfg.store.isSome && !bad && cfg.obs then [Ev.obs d .rs c.nextObs op ty false] else []).reverse ++ c.rtrace
    nextObs := c.nextObs + if cfg.store.isSome && !bad && cfg.obs then 1 else 0 }) fun c => ?_
  rw [persist_eq]
  simp only [norm, List.filter_append, List.filter_reverse, persistEvs_norm]

end Persist
open Persist

theorem ite_pair {α β : Type} {p q : Prop} [Decidable p] [Decidable q] {a1 b1 : α} {a2 b2 : β} (Q : α → β → Prop)
    (hpq : p ↔ q) (ht : p → Q a1 a2) (he : ¬p → Q b1 b2) : Q (if p then a1 else b1) (if q then a2 else b2) := by
  by_cases hp : p
  · rw [if_pos hp, if_pos (hpq.1 hp)]; exact ht hp
  · rw [if_neg hp, if_neg (mt hpq.2 hp)]; exact he hp

section sim
variable {R R' : Type}

def Sim (ρ : R → R' → Prop) (E : Core → Core → Prop) (s : St R) (s' : St R') : Prop := ρ s.reg s'.reg ∧ E s.c s'.c

/-- what the walk asks of the two relations: the registry calls respect `ρ`; `E` implies agreement up to store faults,
so that the two machines take the same branches, and is kept by every update that is a congruence for `norm` -/
structure Sim.OK (I : RegImpl R) (I' : RegImpl R') (ρ : R → R' → Prop) (E : Core → Core → Prop) : Prop where
  get : ∀ {r r'}, ρ r r' → ∀ t, I.get r t = I'.get r' t
  set : ∀ {r r'}, ρ r r' → ∀ t l, ρ (I.set r t l) (I'.set r' t l)
  clearAll : ∀ {r r'}, ρ r r' → ρ (I.clearAll r) (I'.clearAll r')
  norm : ∀ {c c'}, E c c' → norm c = norm c'
  map : ∀ {f c c'}, NC f → E c c' → E (f c) (f c')

variable {I : RegImpl R} {I' : RegImpl R'} {ρ : R → R' → Prop} {E : Core → Core → Prop} (ok : Sim.OK I I' ρ E)
  {cfg : Config} {rec : Frame → St R → Action → St R} {rec' : Frame → St R' → Action → St R'} {s : St R} {s' : St R'}
include ok

theorem Sim.map (hs : Sim ρ E s s') {f : Core → Core} (hf : NC f) :
    Sim ρ E { s with c := f s.c } { s' with c := f s'.c } := ⟨hs.1, ok.map hf hs.2⟩

/-- an update that does not look at the store fields commutes with `norm` as it stands -/
theorem Sim.set (hs : Sim ρ E s s') (f : Core → Core) (hf : ∀ c, norm (f c) = f (norm c) := by exact fun _ => rfl) :
    Sim ρ E { s with c := f s.c } { s' with c := f s'.c } := hs.map ok (.of_comm hf)

theorem Sim.proj {α : Type} (hs : Sim ρ E s s') (f : Core → α) (hf : ∀ c, f (norm c) = f c := by exact fun _ => rfl) :
    f s.c = f s'.c := (hf s.c).symm.trans ((congrArg f (ok.norm hs.2)).trans (hf s'.c))

theorem Sim.get (hs : Sim ρ E s s') (t : Nat) : I.get s.reg t = I'.get s'.reg t := ok.get hs.1 t

theorem Sim.setReg (hs : Sim ρ E s s') (t : Nat) (l : List Reg) :
    Sim ρ E { s with reg := I.set s.reg t l } { s' with reg := I'.set s'.reg t l } := ⟨ok.set hs.1 t l, hs.2⟩

def SimRec (ρ : R → R' → Prop) (E : Core → Core → Prop) (rec : Frame → St R → Action → St R)
    (rec' : Frame → St R' → Action → St R') : Prop :=
  ∀ fr a s s', Sim ρ E s s' → Sim ρ E (rec fr s a) (rec' fr s' a)

theorem runBody_sim (h : SimRec ρ E rec rec') (fr : Frame) (acts : List Action) {s : St R} {s' : St R'}
    (hs : Sim ρ E s s') : Sim ρ E (runBody rec fr s acts) (runBody rec' fr s' acts) := by
  induction acts generalizing s s' with
  | nil => exact hs
  | cons a as ih =>
    simp only [runBody, List.foldl_cons]
    exact ih (ite_pair (Sim ρ E) (by rw [hs.proj ok Core.panicking]) (fun _ => hs) (fun _ => h fr a s s' hs))

theorem openSpan_sim (hs : Sim ρ E s s') (d : Nat) (k : ObsKind) (p ty : Nat) (f : Bool) :
    Sim ρ E (openSpan cfg d k p ty f s) (openSpan cfg d k p ty f s') := by
  rw [openSpan_eq, openSpan_eq, hs.proj ok Core.nextObs]
  exact (hs.map ok (NC.emitIf _ _)).set ok fun c => { c with nextObs := s'.c.nextObs + if cfg.obs then 1 else 0 }

theorem closeSpan_sim (hs : Sim ρ E s s') (d : Nat) (k : ObsKind) (id ty : Nat) (f : Bool) :
    Sim ρ E (closeSpan cfg d k id ty f s) (closeSpan cfg d k id ty f s') := hs.map ok (NC.emitIf _ _)

theorem entered_sim (hs : Sim ρ E s s') (r : Reg) (ty v root d : Nat) (async : Bool) :
    Sim ρ E (entered r ty v root d async s) (entered r ty v root d async s') :=
  (hs.map ok (NC.emit (.enter (d + 1) r.rid ty v (if r.ctxAware then some root else none) async))).set ok
    fun c => { c with calls := c.calls + 1 }

theorem callHandler_sim (h : SimRec ρ E rec rec') (r : Reg) (ty v root op d : Nat) (async : Bool) (hs : Sim ρ E s s') :
    Sim ρ E (callHandler cfg rec r ty v root op d async s) (callHandler cfg rec' r ty v root op d async s') := by
  rw [callHandler_eq, callHandler_eq, hs.proj ok Core.nextObs]
  have hb := runBody_sim ok h ⟨d + 1, root, if cfg.obs then s'.c.nextObs else op, r.ctxAware⟩ (cfg.bodies.getD r.body [])
    (entered_sim ok (openSpan_sim ok (cfg := cfg) hs d .hs op ty async) r ty v root d async)
  generalize runBody rec _ (entered r ty v root d async (openSpan cfg d .hs op ty async s)) _ = t1 at hb
  generalize runBody rec' _ (entered r ty v root d async (openSpan cfg d .hs op ty async s')) _ = t2 at hb
  unfold chPost
  rw [chMid_eq, chMid_eq, hb.proj ok Core.panicking]
  exact closeSpan_sim ok ((hb.map ok (NC.emits (.exit (d + 1) r.rid :: panichEvs cfg r ty v d t2.c.panicking))).set ok
    fun c => { c with panicking := none }) ..

def SimAcc (ρ : R → R' → Prop) (E : Core → Core → Prop) (x : St R × List Reg) (y : St R' × List Reg) : Prop :=
  Sim ρ E x.1 y.1 ∧ x.2 = y.2

theorem deliver_sim (h : SimRec ρ E rec rec') (ty v root obs d : Nat) (r : Reg) {a : St R × List Reg}
    {a' : St R' × List Reg} (ha : SimAcc ρ E a a') :
    SimAcc ρ E (deliver cfg rec ty v root obs d a r) (deliver cfg rec' ty v root obs d a' r) := by
  obtain ⟨s, cl⟩ := a; obtain ⟨s', cl'⟩ := a'
  obtain ⟨hs, hcl⟩ := ha
  simp only at hs hcl
  subst hcl
  have hF : Sim ρ E (dFilt d v root r s) (dFilt d v root r s') := by
    rw [dFilt_eq, dFilt_eq]
    exact (hs.map ok (NC.emits _)).set ok fun c =>
      { c with cancelled := if cancelsAt r root then root :: c.cancelled else c.cancelled }
  have hC : Sim ρ E (dClaim r (dFilt d v root r s)) (dClaim r (dFilt d v root r s')) := by
    rw [dClaim_eq, dClaim_eq]
    exact hF.set ok fun c => { c with executed := if r.once then r.rid :: c.executed else c.executed }
  have hk : skips r v root s.c ↔ skips r v root s'.c := by
    unfold skips; rw [hs.proj ok (·.live root), hs.proj ok Core.executed]
  rw [deliver_cases, deliver_cases]
  exact ite_pair (SimAcc ρ E) hk (fun _ => ⟨hF, rfl⟩) fun _ => ite_pair (SimAcc ρ E) .rfl
    (fun _ => ⟨hC.set ok fun c => { c with pending := c.pending ++ [⟨r, ty, v, root, obs, d⟩] }, rfl⟩)
    fun _ => ⟨callHandler_sim ok h _ _ _ _ _ _ _ hC, rfl⟩

theorem loop_sim (h : SimRec ρ E rec rec') (ty v root obs d : Nat) (l : List Reg) {a : St R × List Reg}
    {a' : St R' × List Reg} (ha : SimAcc ρ E a a') :
    SimAcc ρ E (l.foldl (deliver cfg rec ty v root obs d) a) (l.foldl (deliver cfg rec' ty v root obs d) a') := by
  induction l generalizing a a' with
  | nil => exact ha
  | cons r l ih =>
    simp only [List.foldl_cons]
    exact ih (deliver_sim ok h ty v root obs d r ha)

theorem pubCtx_sim (fr : Frame) (sel : CtxSel) (hs : Sim ρ E s s') :
    (pubCtx fr sel s).1 = (pubCtx fr sel s').1 ∧ (pubCtx fr sel s).2.1 = (pubCtx fr sel s').2.1 ∧
    Sim ρ E (pubCtx fr sel s).2.2 (pubCtx fr sel s').2.2 := by
  have hn : s.c.nextCtx = s'.c.nextCtx := hs.proj ok _
  obtain ⟨d, root, obs, ca⟩ := fr
  cases sel
  · exact ⟨rfl, rfl, hs⟩
  · exact ⟨hn, rfl, hs.set ok fun c => { c with nextCtx := c.nextCtx + 1 }⟩
  · exact ⟨hn, rfl, hs.set ok fun c => { c with nextCtx := c.nextCtx + 1, cancelled := c.nextCtx :: c.cancelled }⟩
  · cases ca <;> exact ⟨rfl, rfl, hs⟩

theorem pubAfter_sim (d ty v : Nat) {a : St R × List Reg} {a' : St R' × List Reg} (ha : SimAcc ρ E a a') :
    Sim ρ E (pubAfter I cfg d ty v a) (pubAfter I' cfg d ty v a') := by
  obtain ⟨s, cl⟩ := a; obtain ⟨s', cl'⟩ := a'
  obtain ⟨hs, hcl⟩ := ha
  simp only at hs hcl
  subst hcl
  have h0 : Sim ρ E (if cl.isEmpty then s else { s with reg := I.set s.reg ty (retire cl (I.get s.reg ty)) })
      (if cl.isEmpty then s' else { s' with reg := I'.set s'.reg ty (retire cl (I'.get s'.reg ty)) }) :=
    ite_pair (Sim ρ E) .rfl (fun _ => hs) (fun _ => by rw [hs.get ok]; exact hs.setReg ok ..)
  exact (h0.map ok (NC.emitIf cfg.hookAL (.hook d .al ty v))).map ok (NC.emitIf cfg.hookAC (.hook d .ac ty v))

theorem publish_sim (h : SimRec ρ E rec rec') (fr : Frame) (ty v : Nat) (bad : Bool) (sel : CtxSel) (hs : Sim ρ E s s') :
    Sim ρ E (publish I cfg rec fr ty v bad sel s) (publish I' cfg rec' fr ty v bad sel s') := by
  simp only [publish_eq, pubLoop, pubSnap, pubObs]
  obtain ⟨e1, e2, e3⟩ := pubCtx_sim ok fr sel hs
  generalize pubCtx fr sel s = t1 at e1 e2 e3
  generalize pubCtx fr sel s' = t2 at e1 e2 e3
  obtain ⟨root1, obs1, u1⟩ := t1; obtain ⟨root2, obs2, u2⟩ := t2
  simp only at e1 e2 e3 ⊢
  subst e1 e2
  rw [e3.proj ok Core.nextObs]
  have h1 := (((openSpan_sim ok (cfg := cfg) e3 fr.depth .ps obs1 ty false).map ok
    (NC.emitIf cfg.hookBL (.hook fr.depth .bl ty v))).map ok (NC.emitIf cfg.hookBC (.hook fr.depth .bc ty v))).map ok
    (persist_norm cfg fr.depth ty v bad (if cfg.obs then u2.c.nextObs else obs1))
  refine closeSpan_sim ok (pubAfter_sim ok fr.depth ty v ?_) ..
  rw [show I.get (pubBefore cfg fr.depth ty v bad (if cfg.obs then u2.c.nextObs else obs1)
    (openSpan cfg fr.depth .ps obs1 ty false u1)).reg ty = _ from h1.get ok ty]
  exact loop_sim ok h _ _ _ _ _ _ ⟨h1, rfl⟩

theorem step_sim (h : SimRec ρ E rec rec') : SimRec ρ E (step I cfg rec) (step I' cfg rec') := by
  intro fr a s s' hs
  cases a <;> simp only [step]
  case subscribe ty _ _ _ _ _ _ _ =>
    rw [hs.get ok, hs.proj ok Core.nextRid]
    exact ⟨ok.set hs.1 .., (hs.set ok fun c => { c with nextRid := s'.c.nextRid + 1 }).2⟩
  case unsubscribe ty hid =>
    rw [hs.get ok]
    exact ite_pair (Sim ρ E) .rfl (fun _ => ⟨ok.set hs.1 .., (hs.map ok (NC.emit _)).2⟩) (fun _ => hs.map ok (NC.emit _))
  case clear => exact hs.setReg ok ..
  case clearAll => exact ⟨ok.clearAll hs.1, hs.2⟩
  case publish =>
    exact ite_pair (Sim ρ E) (by rw [hs.proj ok Core.calls]) (fun _ => hs.map ok (NC.emit _))
      (fun _ => publish_sim ok h _ _ _ _ _ hs)
  case cancel =>
    exact ite_pair (Sim ρ E) .rfl (fun _ => hs) (fun _ => hs.set ok fun c => { c with cancelled := fr.root :: c.cancelled })
  case cancelId k =>
    exact ite_pair (Sim ρ E) (by rw [hs.proj ok Core.nextCtx]) (fun _ => hs)
      (fun _ => hs.set ok fun c => { c with cancelled := k :: c.cancelled })
  case panic val =>
    exact ite_pair (Sim ρ E) .rfl (fun _ => hs) (fun _ => hs.set ok fun c => { c with panicking := some val })
  case has => rw [hs.get ok]; exact hs.map ok (NC.emit _)
  case count => rw [hs.get ok]; exact hs.map ok (NC.emit _)
  case readLog =>
    -- the event carries the log, on which the two runs may differ: it is a persist event, and `norm` drops those
    exact hs.map ok (f := fun c => c.emit (.log fr.depth c.log)) (.of_comm (g := id) fun _ => rfl)
  case drain =>
    refine ite_pair (Sim ρ E) .rfl (fun _ => hs) (fun _ => ?_)
    rw [hs.proj ok Core.pending]
    cases s'.c.pending with
    | nil => exact hs
    | cons p ps =>
      have h1 : Sim ρ E { s with c := { s.c with pending := ps } } { s' with c := { s'.c with pending := ps } } :=
        hs.set ok fun c => { c with pending := ps }
      exact h _ _ _ _ (ite_pair (Sim ρ E) (by rw [h1.proj ok (·.live p.root)]) (fun _ => h1)
        (fun _ => callHandler_sim ok h _ _ _ _ _ _ _ h1))

theorem exec_sim (n : Nat) : SimRec ρ E (exec I cfg n) (exec I' cfg n) := by
  induction n with
  | zero => intro fr a s s' hs; exact hs.set ok fun c => { c with outOfFuel := true }
  | succ n ih => exact step_sim ok ih

theorem run_sim (fuel : Nat) (f f' : List Bool) (prog : List Action) (h0 : Sim ρ E (initSt I f) (initSt I' f')) :
    Sim ρ E (run I cfg fuel f prog) (run I' cfg fuel f' prog) := by
  unfold run
  generalize initSt I f = s at h0
  generalize initSt I' f' = s' at h0
  induction prog generalizing s s' with
  | nil => exact h0
  | cons a as ih => exact ih _ _ (exec_sim ok fuel {} a s s' h0)

end sim

end Ebu.Bus
