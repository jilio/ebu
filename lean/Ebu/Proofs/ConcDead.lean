import Ebu.Spec.ConcOrder
import Ebu.Proofs.Conc
import Ebu.Proofs.ConcTrace
/-!
Removed registrations in the interleaving model M2 (C02): a registration that is neither in the registry nor carried by
any goroutine (in a snapshot rest, as running handler, at a program counter, as the job of an unfinished async
goroutine) is never entered again, under every schedule.
-/
namespace Ebu.Conc
namespace Inv

theorem carries_iff (rid : Nat) (th : Thread) : carriesReg rid th = false ↔ Carried (·.rid ≠ rid) th := by
  constructor
  · intro h
    unfold carriesReg at h
    simp only [Bool.or_eq_false_iff, List.any_eq_false] at h
    obtain ⟨⟨h1, h2⟩, h3⟩ := h
    refine ⟨?_, ?_, ?_⟩
    · intro g hg
      have := h1 g hg
      simp only [Bool.or_eq_true, not_or, List.any_eq_true, not_exists, not_and] at this
      refine ⟨fun x hx => by simpa using this.1 x hx, fun r hr => ?_⟩
      have h' := this.2
      rw [hr] at h'
      simpa using h'
    · intro r hr
      cases hpc : th.pc <;> simp [hpc, pcReg] at hr h2 <;> subst hr <;> exact h2
    · intro hd j hj
      rw [hj] at h3
      simpa [hd] using h3
  · intro ⟨h1, h2, h3⟩
    unfold carriesReg
    simp only [Bool.or_eq_false_iff, List.any_eq_false]
    refine ⟨⟨?_, ?_⟩, ?_⟩
    · intro g hg
      obtain ⟨a, b⟩ := h1 g hg
      simp only [Bool.or_eq_true, not_or, List.any_eq_true, not_exists, not_and]
      refine ⟨fun x hx => by simpa using a x hx, ?_⟩
      cases hh : g.handler with
      | none => simp
      | some r => simpa using b r hh
    · cases hpc : th.pc <;> first | rfl | simpa using h2 _ (hpc ▸ rfl)
    · cases hj : th.job with
      | none => rfl
      | some j =>
        by_cases hd : th.pc = .done
        · simp [hd]
        · simpa [hd] using h3 hd j hj

theorem step_entries_free {sh : Shared} {th : Thread} {o : Out} {rid : Nat} (h : step sh th = some o)
    (hth : Carried (·.rid ≠ rid) th) (i : Nat) (tr : List (Nat × Obs)) :
    entriesOfReg rid (tr ++ o.obs.map (fun e => (i, e))) = entriesOfReg rid tr := by
  unfold entriesOfReg
  rw [List.filter_append, List.append_right_eq_self, List.filter_eq_nil_iff]
  intro p hp
  obtain ⟨e, he, rfl⟩ := List.mem_map.1 hp
  cases e with
  | enter r' ty v a =>
    -- the step has arrived at the entry of `r'`: it came there with the registration it carried
    obtain ⟨r, _, _, hpc, _, rfl, _⟩ := step_enter h he
    have hne : r.rid ≠ rid := by
      rcases (stepR_of_step h).enter_cases hpc with ⟨h1, j, hj, rfl, _⟩ | ⟨f, fs, hfr, _, hp | hm, _⟩
      · exact hth.job (by simp [h1]) j hj
      · exact hth.pc r hp
      · exact (hth.frames f (by simp [hfr])).1 r hm.1
    simpa using hne
  | _ => simp

end Inv

open Ebu.Conc.Inv

theorem dead_step {x x' : SysT} {i : Nat} {rid : Nat} (hstep : x.stepAt i = some x') (hrid : rid < x.s.sh.nextRid)
    (hgone : ∀ r ∈ x.s.sh.regs, r.rid ≠ rid) (hfree : ∀ th ∈ x.s.ths, carriesReg rid th = false) :
    entriesOfReg rid x'.tr = entriesOfReg rid x.tr ∧ rid < x'.s.sh.nextRid ∧
    (∀ r ∈ x'.s.sh.regs, r.rid ≠ rid) ∧ (∀ th ∈ x'.s.ths, carriesReg rid th = false) := by
  obtain ⟨th, o, hth, ho, _, rfl⟩ := stepAtT_cases hstep
  have hR := stepR_of_step ho
  have hF : ∀ t ∈ x.s.ths, Carried (·.rid ≠ rid) t := fun t ht => (carries_iff rid t).1 (hfree t ht)
  have hthF := hF th (List.mem_of_getElem? hth)
  refine ⟨step_entries_free ho hthF i x.tr, Nat.lt_of_lt_of_le hrid hR.regStep.nextRid_le,
    fun r hr => (hR.regStep.mem_old hr).elim (hgone r) (fun e => by omega), ?_⟩
  intro t ht
  refine (carries_iff rid t).2 ?_
  rcases mem_step_cases ht with ht | rfl | ht
  · exact hF t ht
  · exact hR.carried hgone hthF
  · exact hR.carried_new hthF t ht

theorem dead_steps {x x' : SysT} {rid : Nat} (hs : StepsT x x') (hrid : rid < x.s.sh.nextRid)
    (hgone : ∀ r ∈ x.s.sh.regs, r.rid ≠ rid) (hfree : ∀ th ∈ x.s.ths, carriesReg rid th = false) :
    entriesOfReg rid x'.tr = entriesOfReg rid x.tr ∧ rid < x'.s.sh.nextRid ∧
    (∀ r ∈ x'.s.sh.regs, r.rid ≠ rid) ∧ (∀ th ∈ x'.s.ths, carriesReg rid th = false) := by
  induction hs with
  | refl => exact ⟨rfl, hrid, hgone, hfree⟩
  | step _ hst ih =>
    obtain ⟨e, a, b, c⟩ := ih
    obtain ⟨e', a', b', c'⟩ := dead_step hst a b c
    exact ⟨e'.trans e, a', b', c'⟩

/-- C02: a handler whose removal has returned and which no publish in progress still carries is never invoked again:
once registration `rid` is neither in the registry nor carried by any goroutine, it stays that way and no step ever
enters it, whatever is published afterwards, under every schedule -/
theorem removed_registration_is_dead {progs : List (List Op)} {x x' : SysT} (h : ReachableT progs x) (hs : StepsT x x')
    (rid : Nat) (hrid : rid < x.s.sh.nextRid)
    (hgone : ∀ r ∈ x.s.sh.regs, r.rid ≠ rid) (hfree : ∀ th ∈ x.s.ths, carriesReg rid th = false) :
    entriesOfReg rid x'.tr = entriesOfReg rid x.tr ∧
    (∀ r ∈ x'.s.sh.regs, r.rid ≠ rid) ∧ (∀ th ∈ x'.s.ths, carriesReg rid th = false) := by
  have _ := h  -- part of the statement, not needed
  obtain ⟨e, _, b, c⟩ := dead_steps hs hrid hgone hfree
  exact ⟨e, b, c⟩

/-- a registration is entered only while it is carried: every step that enters `rid` is taken by a goroutine that
carried it before the step (a publish parks at "publish.snapshot" after it took its snapshot and enters nothing in that
step, so what is merely registered is not entered) -/
theorem entered_only_if_carried_strong {x x' : SysT} {i : Nat} (hstep : x.stepAt i = some x') (rid : Nat)
    (hnew : entriesOfReg rid x'.tr ≠ entriesOfReg rid x.tr) :
    ∃ th, x.s.ths[i]? = some th ∧ carriesReg rid th = true := by
  obtain ⟨th, o, hth, ho, _, rfl⟩ := stepAtT_cases hstep
  refine ⟨th, hth, ?_⟩
  cases hc : carriesReg rid th with
  | true => rfl
  | false => exact absurd (step_entries_free ho ((carries_iff rid th).1 hc) i x.tr) hnew

/-- `entered_only_if_carried_strong` with a weaker conclusion -/
theorem entered_only_if_carried {progs : List (List Op)} {x x' : SysT} {i : Nat} (h : ReachableT progs x)
    (hstep : x.stepAt i = some x') (rid : Nat) (hnew : entriesOfReg rid x'.tr ≠ entriesOfReg rid x.tr) :
    ∃ th, x.s.ths[i]? = some th ∧ (carriesReg rid th = true ∨ ∃ r ∈ x.s.sh.regs, r.rid = rid) := by
  have _ := h  -- part of the statement, not needed: neither is the second alternative of the conclusion
  obtain ⟨th, hth, hc⟩ := entered_only_if_carried_strong hstep rid hnew
  exact ⟨th, hth, .inl hc⟩

/-! ### the hypotheses are satisfiable: subscribe, publish (the handler runs), unsubscribe, publish again -/

namespace DeadExample
open TraceExample

/-- one goroutine: subscribe a synchronous handler to type 0, publish, unsubscribe it, publish again -/
def dxProgs : List (List Op) :=
  [ [ .subscribe 0 0 false false false none [],
      .publish 0 1 .bg,
      .unsubscribe 0 0,
      .publish 0 2 .bg ] ]

/-- subscribe; publish: snapshot, dispatch (the handler is entered), handler returns, PublishContext returns; unsubscribe -/
def dxSched : List Nat := [0, 0, 0, 0, 0, 0]

theorem dxRuns : (runT { s := initSys dxProgs } dxSched).isSome = true := by decide +kernel

/-- the state right after `Unsubscribe` returned -/
def dxState : SysT := (runT { s := initSys dxProgs } dxSched).get dxRuns

theorem dxReachable : ReachableT dxProgs dxState := runT_reachable .init (Option.some_get dxRuns).symm

/-- the second publish: snapshot (empty), PublishContext returns, the goroutine ends -/
def dxSched2 : List Nat := [0, 0, 0]

theorem dxRuns2 : (runT dxState dxSched2).isSome = true := by decide +kernel

def dxFinal : SysT := (runT dxState dxSched2).get dxRuns2

theorem dxSteps : StepsT dxState dxFinal := runT_steps (.refl _) (Option.some_get dxRuns2).symm

end DeadExample

open DeadExample in
/-- non-vacuity: after subscribe, publish, unsubscribe the hypotheses of `removed_registration_is_dead` hold for
registration 0, whose handler ran exactly once before it was removed; the second publish runs to the end of the program,
and (by the theorem) the handler is not entered again -/
theorem dead_hypotheses_satisfiable :
    ReachableT dxProgs dxState ∧ StepsT dxState dxFinal ∧ 0 < dxState.s.sh.nextRid ∧
    (∀ r ∈ dxState.s.sh.regs, r.rid ≠ 0) ∧ (∀ th ∈ dxState.s.ths, carriesReg 0 th = false) ∧
    entriesOfReg 0 dxState.tr = [(0, Obs.enter 0 0 1 false)] ∧
    dxFinal.s.ths.map (·.pc) = [Pc.done] ∧
    entriesOfReg 0 dxFinal.tr = [(0, Obs.enter 0 0 1 false)] := by
  have h1 : (0 : Nat) < dxState.s.sh.nextRid := by decide +kernel
  have h2 : ∀ r ∈ dxState.s.sh.regs, r.rid ≠ 0 := by decide +kernel
  have h3 : ∀ th ∈ dxState.s.ths, carriesReg 0 th = false := by decide +kernel
  have h4 : entriesOfReg 0 dxState.tr = [(0, Obs.enter 0 0 1 false)] := by decide +kernel
  refine ⟨dxReachable, dxSteps, h1, h2, h3, h4, by decide +kernel, ?_⟩
  rw [(removed_registration_is_dead dxReachable dxSteps 0 h1 h2 h3).1, h4]

namespace DeadExample
open TraceExample

theorem dxRunsA : (runT { s := initSys dxProgs } (List.replicate 2 0)).isSome = true := by decide +kernel

/-- parked at "publish.snapshot" of the first publish, with registration 0 in the rest of the snapshot -/
def dxBefore : SysT := (runT { s := initSys dxProgs } (List.replicate 2 0)).get dxRunsA
theorem dxRunsB : (dxBefore.stepAt 0).isSome = true := by decide +kernel
/-- `dxBefore` one step later, inside the handler -/
def dxAfter : SysT := (dxBefore.stepAt 0).get dxRunsB

end DeadExample

open DeadExample in
/-- non-vacuity of `entered_only_if_carried`: the step of the first publish that enters registration 0 -/
theorem entered_hypotheses_satisfiable :
    ReachableT dxProgs dxBefore ∧ dxBefore.stepAt 0 = some dxAfter ∧
    entriesOfReg 0 dxAfter.tr ≠ entriesOfReg 0 dxBefore.tr ∧
    ∃ th, dxBefore.s.ths[0]? = some th ∧ carriesReg 0 th = true := by
  have hst : dxBefore.stepAt 0 = some dxAfter := (Option.some_get dxRunsB).symm
  have hne : entriesOfReg 0 dxAfter.tr ≠ entriesOfReg 0 dxBefore.tr := by decide +kernel
  exact ⟨runT_reachable .init (Option.some_get dxRunsA).symm, hst, hne,
    entered_only_if_carried_strong hst 0 hne⟩

end Ebu.Conc
