import Ebu.Spec.ConcTermination
import Ebu.Proofs.ConcProgress
import Ebu.Proofs.ConcTrace
/-!
Termination of the interleaving model M2 under the strict rank hypothesis: an explicit numeric potential
`Phi` (sum over the goroutines of `phi`) that every step decreases by at least one.

`phi` is parametrised by `w : Nat → Nat`, the price of one publish of an event type (everything its snapshot can
cause, in this goroutine and in the goroutines it spawns).  The only property of `w` the decrease needs is that a
snapshot taken *now* is paid for by `w` (`hsnap` of `stepR_pot`); `snap_le` establishes it for the concrete `W ρ N B`,
defined by recursion on the rank (its hypotheses: `qr_of_hist`, `subs_reachable`).

With deadlock freedom, every run can be continued to an end at which all goroutines have finished
(`every_run_completes`), and at the end of a maximal run every async delivery whose context is live has been made
(`maximal_run_delivers_everything`).
-/
namespace Ebu.Conc
open Ebu.Conc.Inv

namespace Term

theorem sum_le_length_mul {α : Type} (f : α → Nat) (c : Nat) (l : List α) (h : ∀ x ∈ l, f x ≤ c) :
    (l.map f).sum ≤ l.length * c := by
  induction l with
  | nil => simp
  | cons x xs ih =>
    have h1 := h x (by simp)
    have h2 := ih (fun y hy => h y (by simp [hy]))
    simp only [List.map_cons, List.sum_cons, List.length_cons, Nat.succ_mul]
    omega

section
variable (w : Nat → Nat)

/-- what is left of a handler body: every event costs its publish plus the steps around it -/
def bodyC (b : List (Nat × Nat)) : Nat := (b.map (fun p => w p.1 + 10)).sum

/-- one snapshot entry: filter, claim, spawn/lock, enter, the body, exit – and the whole goroutine if it is async -/
def eC (r : Reg) : Nat := 23 + bodyC w r.body

def restC (l : List Reg) : Nat := (l.map (eC w)).sum

def frameC (f : Frame) : Nat := 5 + restC w f.rest + bodyC w f.body

def framesC (l : List Frame) : Nat := (l.map (frameC w)).sum

/-- The cost of a yield point.  `stepR_pot` needs the order only: every step ends at least one below where it began.
Along the delivery of a registration `r`, with `b = bodyC w r.body` (it stays in the program counter until the step to
`.enter` puts the body into the activation): `.filter` 22+b > `.claimed` 21+b > 20+b, the most a dispatch costs (`hG` of
`shape_pot`): `.spawn` 20+b, or `.lock` 6+b > `.enter` 5 (+ b in the activation) > `.exit` 3 > 2.  That 2 is what a loop
that goes on may cost on top of the thread's activations (`dshape_pot`): it stops at `.retire` 2 > `.retired` 1; or at
the next entry, which its `eC` 23+b' pays for; or it returns to `.op` 4, paid for by the activation it drops (`frameC`
≥ 5).  Likewise `.snap` 3 > 2, and `.op` 4 > `.exit` 3.  `.spawn` also pays for the goroutine: 20+b > 2 + `.astart` 13+b,
and `.astart` > `.turn` 12+b > its activation 5 + `.lock` 6+b.  A publish costs `w ty + 10` (`bodyC`, `opC`): `w ty` for
the snapshot (`hsnap`), then 5 for the new activation and 3 for `.snap`, less the 4 of the `.op` it leaves, and one.
There is room: `.spawn` needs 16+b, `eC` two less than `.filter`, a publish 5, an activation 4. -/
def pcC (j : Option Job) : Pc → Nat
  | .op => 4
  | .snap => 3
  | .filter r => 22 + bodyC w r.body
  | .claimed r => 21 + bodyC w r.body
  | .spawn r _ _ => 20 + bodyC w r.body
  | .lock r _ => 6 + bodyC w r.body
  | .enter _ => 5
  | .exit _ => 3
  | .retire => 2
  | .retired => 1
  | .astart => match j with
    | some j => 13 + bodyC w j.reg.body
    | none => 0
  | .turn => match j with
    | some j => 12 + bodyC w j.reg.body
    | none => 0
  | .aend => 1
  | .done => 0

def opC : Op → Nat
  | .publish ty _ _ => w ty + 10
  | _ => 1

def progC (p : List Op) : Nat := (p.map (opC w)).sum

def phi (th : Thread) : Nat := progC w th.prog + framesC w th.frames + pcC w th.job th.pc

@[simp] theorem bodyC_nil : bodyC w [] = 0 := rfl
@[simp] theorem bodyC_cons (p : Nat × Nat) (b : List (Nat × Nat)) : bodyC w (p :: b) = w p.1 + 10 + bodyC w b := by
  simp [bodyC]
@[simp] theorem restC_nil : restC w [] = 0 := rfl
@[simp] theorem restC_cons (r : Reg) (l : List Reg) : restC w (r :: l) = 23 + bodyC w r.body + restC w l := by
  simp [restC, eC]
@[simp] theorem restC_append (l l' : List Reg) : restC w (l ++ l') = restC w l + restC w l' := by
  simp [restC]
@[simp] theorem framesC_nil : framesC w [] = 0 := rfl
@[simp] theorem framesC_cons (f : Frame) (l : List Frame) :
    framesC w (f :: l) = 5 + restC w f.rest + bodyC w f.body + framesC w l := by
  simp [framesC, frameC]
@[simp] theorem progC_nil : progC w [] = 0 := rfl
@[simp] theorem progC_cons (op : Op) (p : List Op) : progC w (op :: p) = opC w op + progC w p := by
  simp [progC]

theorem opC_pos (op : Op) : 1 ≤ opC w op := by
  cases op <;> simp [opC]

theorem suf_restC {l : List Reg} {r : Reg} {l' : List Reg} (h : Suf l r l') :
    23 + bodyC w r.body + restC w l' ≤ restC w l := by
  obtain ⟨t, rfl⟩ := h
  simp only [restC_append, restC_cons]
  omega

/-- The loop stops at an entry of the rest of the snapshot, which then pays for the yield point (`suf_restC`), or – at a
claim or a dispatch – at the registration it started with, nothing taken off the rest: that yield point `K` has to cover. -/
theorem shape_pot {sh th f fs PC PG o} (h : Shape sh th f fs (Suf f.rest) PC PG o) (K : Nat) (hK : 2 ≤ K)
    (hC : ∀ r l, PC r l → l = f.rest ∧ 21 + bodyC w r.body ≤ K ∨ Suf f.rest r l)
    (hG : ∀ r l, PG r l → l = f.rest ∧ 20 + bodyC w r.body ≤ K ∨ Suf f.rest r l) :
    phi w o.th ≤ progC w th.prog + framesC w (f :: fs) + K := by
  cases h
  case ret => simp only [phi, pcC, framesC_cons]; omega
  case retire => simp only [phi, pcC, framesC_cons, restC_nil]; omega
  case filter r l hp _ => have := suf_restC w hp; simp only [phi, pcC, framesC_cons]; omega
  case claimed r l hp _ _ _ =>
    have := (hC r l hp).imp (And.imp_left (congrArg (restC w))) (suf_restC w)
    simp only [phi, pcC, framesC_cons]; omega
  case spawn r l hp _ | lock r l hp _ _ _ | enter r l hp _ _ _ =>
    have := (hG r l hp).imp (And.imp_left (congrArg (restC w))) (suf_restC w)
    simp only [phi, pcC, framesC_cons]; omega

theorem dshape_pot {sh th f fs o} (h : DShape sh th f fs o) : phi w o.th ≤ progC w th.prog + framesC w (f :: fs) + 2 :=
  shape_pot w h 2 (Nat.le_refl 2) (fun _ _ h => .inr h) (fun _ _ h => .inr h.1)

theorem fshape_pot {sh th f fs r0 o} (h : FShape sh th f fs r0 o) :
    phi w o.th ≤ progC w th.prog + framesC w (f :: fs) + (21 + bodyC w r0.body) :=
  shape_pot w h _ (by omega) (fun _ _ h => h.imp_left fun ⟨e, e'⟩ => ⟨e', e ▸ Nat.le_refl _⟩)
    (fun _ _ h => h.1.imp_left fun ⟨e, e'⟩ => ⟨e', e ▸ by omega⟩)

theorem cshape_pot {sh th f fs r0 o} (h : CShape sh th f fs r0 o) :
    phi w o.th ≤ progC w th.prog + framesC w (f :: fs) + (20 + bodyC w r0.body) :=
  shape_pot w h _ (by omega) (fun _ _ h => .inr h) (fun _ _ h => h.imp (fun ⟨e, e'⟩ => ⟨e', e ▸ Nat.le_refl _⟩) (·.1))

theorem phi_eq (th : Thread) : phi w th = progC w th.prog + framesC w th.frames + pcC w th.job th.pc := rfl

theorem stepR_pot {sh th o} (h : StepR sh th o)
    (hsnap : ∀ ty, restC w (sh.regs.filter (fun r => r.ty == ty)) ≤ w ty) :
    phi w o.th + wsum (phi w) o.new + 1 ≤ phi w th := by
  cases h
  case snap hpc hfr hsh | filterRej hpc hfr _ hsh | lockDeadSync hpc hfr _ _ _ hsh =>
    have := dshape_pot w hsh
    rw [hsh.new_nil, phi_eq w th, hfr, hpc]; simp only [pcC, wsum_nil]; omega
  case filterAcc hpc hfr _ hsh =>
    have := fshape_pot w hsh
    rw [hsh.new_nil, phi_eq w th, hfr, hpc]; simp only [pcC, wsum_nil]; omega
  case claimed hpc hfr hsh =>
    have := cshape_pot w hsh
    rw [hsh.new_nil, phi_eq w th, hfr, hpc]; simp only [pcC, wsum_nil]; omega
  case exit hpc hfr _ hsh =>
    have := dshape_pot w hsh
    rw [hsh.new_nil, phi_eq w th, hfr, hpc]; simp only [pcC, wsum_nil, framesC_cons, bodyC_nil] at this ⊢; omega
  case spawn r n t f fs o hpc hfr hsh =>
    -- the price of the `go` statement includes the whole goroutine
    have := dshape_pot w hsh
    rw [phi_eq w th, hfr, hpc]
    simp only [wsum_cons, wsum_nil, phi_eq w { pc := .astart, job := some _ }, pcC, framesC_nil, progC_nil]
    omega
  case bodyPub ty _ _ hpc hfr hb | enterPub ty _ _ hpc hfr hb =>
    have := hsnap ty
    simp only [phi, hpc, hfr, hb, pcC, framesC_cons, bodyC_cons, bodyC_nil, newFrame, wsum_nil]
    omega
  case publish ty v ctx prog hpc hfr hp =>
    have := hsnap ty
    simp only [phi, hpc, hfr, hp, pcC, framesC_cons, framesC_nil, progC_cons, opC, bodyC_nil, newFrame, wsum_nil]
    omega
  case subscribe hpc hfr hp | unsubscribe hpc hfr hp | clear hpc hfr hp | cancel hpc hfr hp | count hpc hfr hp |
      wait hpc hfr hp _ =>
    simp +arith [phi, hpc, hfr, hp, pcC, opC]
  case lock hpc hfr _ _ | retire hpc hfr | retired hpc hfr | lockDeadJob hpc _ hfr _ _ | exitJob hpc _ hfr =>
    simp +arith [phi, hpc, hfr, pcC]
  case astartRun j hpc hj hs hl | turnRun j hpc hj hturn hl => simp +arith [phi, hpc, hj, pcC, jobFrame]
  case bodyEnd hpc _ _ _ | enterEnd hpc _ _ | fin hpc _ _ | aend hpc => simp +arith [phi, hpc, pcC]
  case astartSeq hpc hj _ | astartDead hpc hj _ _ | turnDead hpc hj _ _ => simp +arith [phi, hpc, hj, pcC]

end

/-- `E N B k` bounds the price of one snapshot entry of a type of rank at most `k`, when no registry holds more than `N`
registrations and no body is longer than `B` -/
def E (N B : Nat) : Nat → Nat
  | 0 => 23
  | k + 1 => 23 + B * (N * E N B k + 10)

def W (ρ : Nat → Nat) (N B : Nat) (ty : Nat) : Nat := N * E N B (ρ ty)

theorem E_le_succ (N B k : Nat) : E N B k ≤ E N B (k + 1) := by
  induction k with
  | zero => simp only [E]; omega
  | succ k ih =>
    have h1 : N * E N B k + 10 ≤ N * E N B (k + 1) + 10 := Nat.add_le_add_right (Nat.mul_le_mul_left N ih) 10
    have h2 := Nat.mul_le_mul_left B h1
    show E N B (k + 1) ≤ 23 + B * (N * E N B (k + 1) + 10)
    rw [show E N B (k + 1) = 23 + B * (N * E N B k + 10) from rfl] at h2 ⊢
    omega

theorem E_mono (N B : Nat) {i j : Nat} (h : i ≤ j) : E N B i ≤ E N B j := by
  induction h with
  | refl => exact Nat.le_refl _
  | step _ ih => exact Nat.le_trans ih (E_le_succ N B _)

/-- the registration is within the bounds `E` is computed from (`eC_le`): its body publishes only events of smaller rank
than its own type, and has at most `B` entries -/
def QR (ρ : Nat → Nat) (B : Nat) (r : Reg) : Prop := (∀ p ∈ r.body, ρ p.1 < ρ r.ty) ∧ r.body.length ≤ B

theorem eC_le {ρ : Nat → Nat} {N B : Nat} {r : Reg} (hq : QR ρ B r) : ∀ k, ρ r.ty ≤ k → eC (W ρ N B) r ≤ E N B k := by
  intro k hk
  cases k with
  | zero =>
    have : r.body = [] := by
      cases hb : r.body with
      | nil => rfl
      | cons p ps => have := hq.1 p (by simp [hb]); omega
    simp [eC, this, E]
  | succ k =>
    have h1 : bodyC (W ρ N B) r.body ≤ r.body.length * (N * E N B k + 10) := by
      apply sum_le_length_mul
      intro p hp
      have := hq.1 p hp
      have h2 : E N B (ρ p.1) ≤ E N B k := E_mono N B (by omega)
      have h3 := Nat.mul_le_mul_left N h2
      simp only [W]; omega
    have h4 := Nat.mul_le_mul_right (N * E N B k + 10) hq.2
    show 23 + bodyC (W ρ N B) r.body ≤ 23 + B * (N * E N B k + 10)
    omega

theorem snap_le {ρ : Nat → Nat} {N B : Nat} {regs : List Reg} (hq : ∀ r ∈ regs, QR ρ B r) (hN : regs.length ≤ N) (ty : Nat) :
    restC (W ρ N B) (regs.filter (fun r => r.ty == ty)) ≤ W ρ N B ty := by
  have h1 : restC (W ρ N B) (regs.filter (fun r => r.ty == ty)) ≤ (regs.filter (fun r => r.ty == ty)).length * E N B (ρ ty) := by
    apply sum_le_length_mul
    intro r hr
    simp only [List.mem_filter, beq_iff_eq] at hr
    exact eC_le (hq r hr.1) _ (by rw [hr.2]; exact Nat.le_refl _)
  have h2 : (regs.filter (fun r => r.ty == ty)).length ≤ N := Nat.le_trans (List.length_filter_le _ _) hN
  exact Nat.le_trans h1 (Nat.mul_le_mul_right _ h2)

def isSub : Op → Bool
  | .subscribe .. => true
  | _ => false

def bodyLen : Op → Nat
  | .subscribe _ _ _ _ _ _ body => body.length
  | _ => 0

def subsIn (p : List Op) : Nat := p.countP isSub

/-- the `N` of `E`: the `Subscribe` calls in the program; no registry ever holds more registrations (`subs_reachable`) -/
def Nof (progs : List (List Op)) : Nat := (progs.map subsIn).sum

/-- the `B` of `E`: the bodies of all `Subscribe` calls in the program taken together, which bounds each (`qr_of_hist`) -/
def Bof (progs : List (List Op)) : Nat := (progs.map (fun p => (p.map bodyLen).sum)).sum

theorem qr_of_hist {ρ : Nat → Nat} {progs : List (List Op)} {all : List Reg} {s : Sys} (hq : Hist progs all s)
    (hr : RankedStrict ρ progs) : ∀ r ∈ s.sh.regs, QR ρ (Bof progs) r := fun r h =>
  have ⟨p, hp, hop⟩ := hq.src r (hq.regs r h)
  ⟨hr p hp _ hop, Nat.le_trans (le_sum_of_mem bodyLen hop) (le_sum_of_mem (fun p => (p.map bodyLen).sum) hp)⟩

theorem subs_reachable {progs : List (List Op)} :
    ∀ s, Reachable progs s → s.sh.regs.length + wsum (fun th => subsIn th.prog) s.ths ≤ Nof progs := by
  apply reach_ind
  · simp [initSys, wsum, Nof, Function.comp_def]
  · intro s i th o hs cnt hth _ hR
    -- a `Subscribe` call moves from the program of the thread into the registry
    obtain ⟨m, e, e'⟩ := wsum_split (fun th => subsIn th.prog) hth
    have hnew : wsum (fun th => subsIn th.prog) o.new = 0 := by
      rcases hR.new_cases with h | ⟨j, h⟩ <;> rw [h] <;> rfl
    rw [e] at cnt
    simp only [e', hnew]
    cases hR.regStep with
    | del hpre hsub _ _ =>
      obtain ⟨pre, hpre⟩ := hpre
      have h1 := hsub.length_le
      have h2 : subsIn th.prog = subsIn pre + subsIn o.th.prog := hpre ▸ List.countP_append
      omega
    | add ty hid once async seq filt body hp hregs _ _ =>
      have h2 : subsIn th.prog = subsIn o.th.prog + 1 := by rw [hp]; exact List.countP_cons_of_pos rfl
      simp only [hregs, List.length_append, List.length_singleton]; omega

def Phi (ρ : Nat → Nat) (progs : List (List Op)) (s : Sys) : Nat := wsum (phi (W ρ (Nof progs) (Bof progs))) s.ths

theorem stepAt_pot {ρ : Nat → Nat} {progs : List (List Op)} (hr : RankedStrict ρ progs) {s s' : Sys} {i : Nat}
    (h : Reachable progs s) (hst : s.stepAt i = some s') : Phi ρ progs s' + 1 ≤ Phi ρ progs s := by
  obtain ⟨th, o, hth, _, hR, rfl⟩ := stepAt_cases hst
  obtain ⟨_, hq⟩ := hist_reachable s h
  have cnt := subs_reachable s h
  have hp := stepR_pot (W ρ (Nof progs) (Bof progs)) hR (snap_le (qr_of_hist hq hr) (by omega))
  obtain ⟨m, e, e'⟩ := wsum_split (phi (W ρ (Nof progs) (Bof progs))) hth
  simp only [Phi, e, e']
  omega

end Term

open Term

/-- a strict rank is a rank in the sense of the deadlock-freedom theorem -/
theorem rankedStrict_ranked (ρ : Nat → Nat) (progs : List (List Op)) (hr : RankedStrict ρ progs) : Ranked ρ progs := by
  intro p hp op hop
  have := hr p hp op hop
  cases op <;> simp only [RankedOp]
  rename_i ty hid once async seq filt body
  intro q hq
  have := this q hq
  exact ⟨Nat.le_of_lt this, fun _ _ => this⟩

theorem run_eq_runSched : ProgressExample.run = runSched := by
  funext s sched
  induction sched generalizing s with
  | nil => rfl
  | cons i is ih => simp only [ProgressExample.run, runSched, ih]

theorem runSched_cons {s s' : Sys} {i : Nat} {is : List Nat} :
    runSched s (i :: is) = some s' ↔ ∃ s1, s.stepAt i = some s1 ∧ runSched s1 is = some s' := by
  simp [runSched, Option.bind_eq_some_iff]

theorem runSched_reachable {progs : List (List Op)} {sched : List Nat} {s s' : Sys}
    (h : Reachable progs s) (hrun : runSched s sched = some s') : Reachable progs s' :=
  run_reachable h (run_eq_runSched ▸ hrun)

theorem runSched_pot {ρ : Nat → Nat} {progs : List (List Op)} (hr : RankedStrict ρ progs) {sched : List Nat} {s s' : Sys}
    (h : Reachable progs s) (hrun : runSched s sched = some s') : sched.length + Phi ρ progs s' ≤ Phi ρ progs s := by
  induction sched generalizing s with
  | nil => cases hrun; simp
  | cons i is ih =>
    obtain ⟨s1, hst, hrun⟩ := runSched_cons.1 hrun
    have h1 := ih (.step h hst) hrun
    have h2 := stepAt_pot hr h hst
    simp only [List.length_cons]
    omega

/-- TERMINATION: under the strict rank hypothesis every schedule is finite – there is a bound, depending only on the
program, on the number of steps any schedule can take -/
theorem runs_terminate (ρ : Nat → Nat) (progs : List (List Op)) (hr : RankedStrict ρ progs) :
    ∃ bound : Nat, ∀ (sched : List Nat) (s : Sys), runSched (initSys progs) sched = some s → sched.length ≤ bound := by
  refine ⟨Phi ρ progs (initSys progs), ?_⟩
  intro sched s hrun
  have := runSched_pot hr .init hrun
  omega

theorem runs_to_stuck {ρ : Nat → Nat} {progs : List (List Op)} (hr : RankedStrict ρ progs) {s : Sys}
    (h : Reachable progs s) : ∃ (sched : List Nat) (s' : Sys), runSched s sched = some s' ∧ ¬ s'.canStep := by
  generalize hn : Phi ρ progs s = n
  induction n using Nat.strongRecOn generalizing s with
  | _ n ih =>
    by_cases hc : s.canStep
    · obtain ⟨i, s1, hst⟩ := hc
      have hp := stepAt_pot hr h hst
      obtain ⟨sched, s', hrun, hs'⟩ := ih _ (by omega) (.step h hst) rfl
      exact ⟨i :: sched, s', runSched_cons.2 ⟨s1, hst, hrun⟩, hs'⟩
    · exact ⟨[], s, rfl, hc⟩

theorem stuck_is_quiescent {ρ : Nat → Nat} {progs : List (List Op)} (hr : Ranked ρ progs) {s : Sys}
    (h : Reachable progs s) (hmax : ¬ s.canStep) : s.allDone ∧ s.sh.inflight = 0 := by
  have hdone : s.allDone := fun th hth =>
    Classical.byContradiction fun hne => hmax (deadlock_free ρ progs hr s h ⟨th, hth, hne⟩)
  refine ⟨hdone, ?_⟩
  rw [infl_reachable s h]
  exact wsum_zero fun t ht => by simp [wInfl, hdone t ht, isSpawn]

/-- hence EVERY run can be continued to the end, and the end is quiescent: from every reachable state some schedule
leads to a state in which every goroutine has finished and nothing is in flight (with termination: whatever the
scheduler does, `Wait` returns and every goroutine finishes after finitely many steps) -/
theorem every_run_completes (ρ : Nat → Nat) (progs : List (List Op)) (hr : RankedStrict ρ progs)
    (s : Sys) (h : Reachable progs s) :
    ∃ (sched : List Nat) (s' : Sys), runSched s sched = some s' ∧ s'.allDone ∧ s'.sh.inflight = 0 := by
  obtain ⟨sched, s', hrun, hs'⟩ := runs_to_stuck hr h
  exact ⟨sched, s', hrun, stuck_is_quiescent (rankedStrict_ranked ρ progs hr) (runSched_reachable h hrun) hs'⟩

/-- LIVENESS at the end of every maximal run: under the rank hypothesis (the one documented exception of C03), a state
from which no goroutine can step is quiescent – every goroutine has finished – and every async delivery whose publish
context is live has run exactly once -/
theorem maximal_run_delivers_everything (ρ : Nat → Nat) (progs : List (List Op)) (hr : Ranked ρ progs)
    {x : SysT} (h : ReachableT progs x) (hmax : ¬ x.s.canStep) :
    x.s.allDone ∧ x.s.sh.inflight = 0 ∧
    ∀ i th j, x.s.ths[i]? = some th → th.job = some j → x.s.sh.live j.ctx = true →
      asyncEntersOf i x.tr = [Obs.enter j.reg.rid j.ty j.v true] := by
  obtain ⟨hdone, hinfl⟩ := stuck_is_quiescent hr (reachableT_reachable h) hmax
  exact ⟨hdone, hinfl, fun i th j hi hj hl =>
    async_exactly_once_when_done h i th j hi hj (hdone th (List.mem_of_getElem? hi)) hl⟩

end Ebu.Conc
