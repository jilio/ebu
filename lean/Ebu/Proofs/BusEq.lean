import Ebu.Spec.Bus
/-!
The bus machine M1 cut into the pieces its proofs speak about, each tied to the model by an equation:
`persist` as one record update, the optional span start, `callHandler` as enter / body / exit,
one turn of the dispatch loop by cases, `publish` as context / span / before / loop / after.
-/
namespace Ebu.Bus

/- `BF` holds what the frame proofs use: here the lemmas on single fields of the core for `emit`, `emitIf` and
`persist`, in `BusFrame` the rest.  They carry no attribute: `BusFrame` makes those it wants `local simp`, other
modules cite them with the prefix (`BF.emitIf_trace`). -/
namespace BF

theorem emit_nextRid (c : Core) (e : Ev) : (c.emit e).nextRid = c.nextRid := rfl
theorem emitIf_nextRid (b : Bool) (c : Core) (e : Ev) : (emitIf b c e).nextRid = c.nextRid := by cases b <;> rfl
theorem emit_executed (c : Core) (e : Ev) : (c.emit e).executed = c.executed := rfl
theorem emitIf_executed (b : Bool) (c : Core) (e : Ev) : (emitIf b c e).executed = c.executed := by cases b <;> rfl
theorem emit_cancelled (c : Core) (e : Ev) : (c.emit e).cancelled = c.cancelled := rfl
theorem emitIf_cancelled (b : Bool) (c : Core) (e : Ev) : (emitIf b c e).cancelled = c.cancelled := by cases b <;> rfl
theorem emit_nextCtx (c : Core) (e : Ev) : (c.emit e).nextCtx = c.nextCtx := rfl
theorem emitIf_nextCtx (b : Bool) (c : Core) (e : Ev) : (emitIf b c e).nextCtx = c.nextCtx := by cases b <;> rfl
theorem emit_log (c : Core) (e : Ev) : (c.emit e).log = c.log := rfl
theorem emitIf_log (b : Bool) (c : Core) (e : Ev) : (emitIf b c e).log = c.log := by cases b <;> rfl
theorem emit_lastOffset (c : Core) (e : Ev) : (c.emit e).lastOffset = c.lastOffset := rfl
theorem emitIf_lastOffset (b : Bool) (c : Core) (e : Ev) : (emitIf b c e).lastOffset = c.lastOffset := by cases b <;> rfl
theorem emit_appendFaults (c : Core) (e : Ev) : (c.emit e).appendFaults = c.appendFaults := rfl
theorem emitIf_appendFaults (b : Bool) (c : Core) (e : Ev) : (emitIf b c e).appendFaults = c.appendFaults := by cases b <;> rfl
theorem emit_pending (c : Core) (e : Ev) : (c.emit e).pending = c.pending := rfl
theorem emitIf_pending (b : Bool) (c : Core) (e : Ev) : (emitIf b c e).pending = c.pending := by cases b <;> rfl
theorem emit_panicking (c : Core) (e : Ev) : (c.emit e).panicking = c.panicking := rfl
theorem emitIf_panicking (b : Bool) (c : Core) (e : Ev) : (emitIf b c e).panicking = c.panicking := by cases b <;> rfl
theorem emit_nextObs (c : Core) (e : Ev) : (c.emit e).nextObs = c.nextObs := rfl
theorem emitIf_nextObs (b : Bool) (c : Core) (e : Ev) : (emitIf b c e).nextObs = c.nextObs := by cases b <;> rfl
theorem emit_calls (c : Core) (e : Ev) : (c.emit e).calls = c.calls := rfl
theorem emitIf_calls (b : Bool) (c : Core) (e : Ev) : (emitIf b c e).calls = c.calls := by cases b <;> rfl
theorem emit_outOfFuel (c : Core) (e : Ev) : (c.emit e).outOfFuel = c.outOfFuel := rfl
theorem emitIf_outOfFuel (b : Bool) (c : Core) (e : Ev) : (emitIf b c e).outOfFuel = c.outOfFuel := by cases b <;> rfl

theorem emit_rtrace (c : Core) (e : Ev) : (c.emit e).rtrace = e :: c.rtrace := rfl
theorem emit_live (c : Core) (e : Ev) (k : Nat) : (c.emit e).live k = c.live k := rfl
theorem emitIf_live (b : Bool) (c : Core) (e : Ev) (k : Nat) : (emitIf b c e).live k = c.live k := by
  cases b <;> rfl

/-- after an update `{ c with … }` `simp` shows the core as `Core.mk` applied to thirteen fields; this reads the
trace off that form -/
theorem trace_mk (a1 : Nat) (a2 a3 : List Nat) (a4 : Nat) (a5 : List (Nat × Nat)) (a6 : Nat)
    (a7 : List Bool) (a8 : List Pending) (rt : List Ev) (a10 : Option Nat) (a11 a12 : Nat) (a13 : Bool) :
    (Core.mk a1 a2 a3 a4 a5 a6 a7 a8 rt a10 a11 a12 a13).trace = rt.reverse := rfl

theorem rtrace_reverse (c : Core) : c.rtrace.reverse = c.trace := rfl

theorem emitIf_trace (b : Bool) (c : Core) (e : Ev) :
    (emitIf b c e).trace = c.trace ++ (if b then [e] else []) := by
  cases b <;> simp [emitIf]

end BF
open BF

theorem newTrace_eq {R R' : Type} {s : St R} {s' : St R'} {l : List Ev} (h : s'.c.trace = s.c.trace ++ l) :
    newTrace s s' = l := by
  simp [newTrace, h]

theorem all_ite {P : Ev → Prop} (b : Bool) (x : Ev) (h : P x) : ∀ e ∈ (if b then [x] else []), P e := by
  cases b <;> simp [h]

theorem all_append {α : Type} {P : α → Prop} {l1 l2 : List α} (h1 : ∀ e ∈ l1, P e) (h2 : ∀ e ∈ l2, P e) :
    ∀ e ∈ l1 ++ l2, P e :=
  List.forall_mem_append.2 ⟨h1, h2⟩

theorem all_single {α : Type} {P : α → Prop} (x : α) (h : P x) : ∀ e ∈ [x], P e :=
  List.forall_mem_singleton.2 h

/-- the events of one append attempt: OnPersistStart, the attempt, OnPersistComplete, the report of a failure -/
def appendEvs (cfg : Config) (d sid ty v obsParent : Nat) (c : Core) : List Ev :=
  (if cfg.obs then [Ev.obs d .rs c.nextObs obsParent ty false] else []) ++
  [Ev.append d sid ty v (!c.appendFaults.headD false) (if c.appendFaults.headD false then 0 else c.log.length + 1)] ++
  (if cfg.obs then [Ev.obs d .rc c.nextObs 0 ty (c.appendFaults.headD false)] else []) ++
  (if c.appendFaults.headD false && cfg.perrH then [Ev.perr d ty v false] else [])

def persistEvs (cfg : Config) (d ty v : Nat) (bad : Bool) (obsParent : Nat) (c : Core) : List Ev :=
  match cfg.store with
  | none => []
  | some sid =>
    if bad then (if cfg.perrH then [.perr d ty v true] else []) else appendEvs cfg d sid ty v obsParent c

theorem persist_eq (cfg : Config) (d ty v : Nat) (bad : Bool) (obsParent : Nat) (c : Core) :
    persist cfg d ty v bad obsParent c =
      { c with
        rtrace := (persistEvs cfg d ty v bad obsParent c).reverse ++ c.rtrace
        nextObs := c.nextObs + if cfg.store.isSome && !bad && cfg.obs then 1 else 0
        appendFaults := if cfg.store.isSome && !bad then c.appendFaults.tail else c.appendFaults
        log := if cfg.store.isSome && !bad && !c.appendFaults.headD false then c.log ++ [(ty, v)] else c.log
        lastOffset := if cfg.store.isSome && !bad && !c.appendFaults.headD false then c.log.length + 1
          else c.lastOffset } := by
  cases hs : cfg.store
  · simp [persist, persistEvs, hs]
  cases bad <;> cases ho : cfg.obs <;> cases hp : cfg.perrH <;> cases hf : c.appendFaults.head?.getD false <;>
    simp [persist, persistEvs, appendEvs, hs, ho, hp, hf, emitIf, Core.emit]

theorem persist_trace (cfg : Config) (d ty v : Nat) (bad : Bool) (obsParent : Nat) (c : Core) :
    (persist cfg d ty v bad obsParent c).trace = c.trace ++ persistEvs cfg d ty v bad obsParent c := by
  rw [persist_eq]; simp [trace_mk, rtrace_reverse]

namespace BF

theorem persist_nextRid (cfg : Config) (d ty v : Nat) (bad : Bool) (o : Nat) (c : Core) :
    (persist cfg d ty v bad o c).nextRid = c.nextRid := by rw [persist_eq]
theorem persist_executed (cfg : Config) (d ty v : Nat) (bad : Bool) (o : Nat) (c : Core) :
    (persist cfg d ty v bad o c).executed = c.executed := by rw [persist_eq]
theorem persist_cancelled (cfg : Config) (d ty v : Nat) (bad : Bool) (o : Nat) (c : Core) :
    (persist cfg d ty v bad o c).cancelled = c.cancelled := by rw [persist_eq]
theorem persist_nextCtx (cfg : Config) (d ty v : Nat) (bad : Bool) (o : Nat) (c : Core) :
    (persist cfg d ty v bad o c).nextCtx = c.nextCtx := by rw [persist_eq]
theorem persist_pending (cfg : Config) (d ty v : Nat) (bad : Bool) (o : Nat) (c : Core) :
    (persist cfg d ty v bad o c).pending = c.pending := by rw [persist_eq]
theorem persist_panicking (cfg : Config) (d ty v : Nat) (bad : Bool) (o : Nat) (c : Core) :
    (persist cfg d ty v bad o c).panicking = c.panicking := by rw [persist_eq]
theorem persist_calls (cfg : Config) (d ty v : Nat) (bad : Bool) (o : Nat) (c : Core) :
    (persist cfg d ty v bad o c).calls = c.calls := by rw [persist_eq]
theorem persist_live (cfg : Config) (d ty v : Nat) (bad : Bool) (o : Nat) (c : Core) (k : Nat) :
    (persist cfg d ty v bad o c).live k = c.live k := by simp [Core.live, persist_cancelled]

end BF

section
variable {R : Type}

/-- the three `On…Start` callbacks -/
def openSpan (cfg : Config) (d : Nat) (k : ObsKind) (p ty : Nat) (f : Bool) (s : St R) : St R :=
  if cfg.obs then { s with c := { s.c.emit (.obs d k s.c.nextObs p ty f) with nextObs := s.c.nextObs + 1 } } else s

theorem openSpan_eq (cfg : Config) (d : Nat) (k : ObsKind) (p ty : Nat) (f : Bool) (s : St R) :
    openSpan cfg d k p ty f s =
      { s with c := { emitIf cfg.obs s.c (.obs d k s.c.nextObs p ty f) with
          nextObs := s.c.nextObs + if cfg.obs then 1 else 0 } } := by
  unfold openSpan
  cases cfg.obs <;> rfl

theorem openSpan_trace (cfg : Config) (d : Nat) (k : ObsKind) (p ty : Nat) (f : Bool) (s : St R) :
    (openSpan cfg d k p ty f s).c.trace = s.c.trace ++ if cfg.obs then [Ev.obs d k s.c.nextObs p ty f] else [] := by
  rw [openSpan_eq]; exact BF.emitIf_trace _ _ _

theorem openSpan_nextObs (cfg : Config) (d : Nat) (k : ObsKind) (p ty : Nat) (f : Bool) (s : St R) :
    (openSpan cfg d k p ty f s).c.nextObs = s.c.nextObs + if cfg.obs then 1 else 0 := by
  rw [openSpan_eq]

/-- the three `On…Complete` callbacks, with the span id the start returned -/
def closeSpan (cfg : Config) (d : Nat) (k : ObsKind) (id ty : Nat) (f : Bool) (s : St R) : St R :=
  { s with c := emitIf cfg.obs s.c (.obs d k id 0 ty f) }

def entered (r : Reg) (ty v root d : Nat) (async : Bool) (s : St R) : St R :=
  { s with c := { s.c.emit (.enter (d + 1) r.rid ty v (if r.ctxAware then some root else none) async) with
      calls := s.c.calls + 1 } }

theorem entered_trace (r : Reg) (ty v root d : Nat) (async : Bool) (s : St R) :
    (entered r ty v root d async s).c.trace =
      s.c.trace ++ [Ev.enter (d + 1) r.rid ty v (if r.ctxAware then some root else none) async] :=
  Core.trace_emit _ _

def panichEvs (cfg : Config) (r : Reg) (ty v d : Nat) : Option Nat → List Ev
  | some val => if cfg.panicH then [.panich d r.ctxAware ty v val] else []
  | none => []

/-- `callHandler` once the handler function has returned or panicked: exit and the deferred recover -/
def chMid (cfg : Config) (r : Reg) (ty v d : Nat) (s : St R) : St R :=
  let s : St R := { s with c := s.c.emit (.exit (d + 1) r.rid) }
  let pv := s.c.panicking
  let s : St R := { s with c := { s.c with panicking := none } }
  match pv with
    | some val => { s with c := emitIf cfg.panicH s.c (.panich d r.ctxAware ty v val) }
    | none => s

theorem chMid_eq (cfg : Config) (r : Reg) (ty v d : Nat) (s : St R) :
    chMid cfg r ty v d s = { s with c := { s.c with
      rtrace := (Ev.exit (d + 1) r.rid :: panichEvs cfg r ty v d s.c.panicking).reverse ++ s.c.rtrace
      panicking := none } } := by
  obtain ⟨reg, c⟩ := s
  cases hp : c.panicking <;> cases hh : cfg.panicH <;> simp [chMid, panichEvs, hp, hh, emitIf, Core.emit]

theorem chMid_trace (cfg : Config) (r : Reg) (ty v d : Nat) (s : St R) :
    (chMid cfg r ty v d s).c.trace = s.c.trace ++ Ev.exit (d + 1) r.rid :: panichEvs cfg r ty v d s.c.panicking := by
  rw [chMid_eq]; simp [trace_mk, rtrace_reverse]

/-- `callHandler` after the body (`bodyResult`): `chMid`, then OnHandlerComplete for the span `sp` opened at the start -/
def chPost (cfg : Config) (r : Reg) (ty v d sp : Nat) (s : St R) : St R :=
  closeSpan cfg d .hc sp ty s.c.panicking.isSome (chMid cfg r ty v d s)

theorem chPost_trace (cfg : Config) (r : Reg) (ty v d sp : Nat) (s : St R) :
    (chPost cfg r ty v d sp s).c.trace = s.c.trace ++ Ev.exit (d + 1) r.rid :: panichEvs cfg r ty v d s.c.panicking ++
      if cfg.obs then [Ev.obs d .hc sp 0 ty s.c.panicking.isSome] else [] := by
  show (emitIf _ _ _).trace = _
  rw [BF.emitIf_trace, chMid_trace]

theorem callHandler_eq (cfg : Config) (rec : Frame → St R → Action → St R) (r : Reg) (ty v root op d : Nat)
    (async : Bool) (s : St R) :
    callHandler cfg rec r ty v root op d async s =
      chPost cfg r ty v d s.c.nextObs
        (runBody rec { depth := d + 1, root := root, obs := if cfg.obs then s.c.nextObs else op, ctxAware := r.ctxAware }
          (entered r ty v root d async (openSpan cfg d .hs op ty async s)) (cfg.bodies.getD r.body [])) := rfl

theorem bodyResult_eq (cfg : Config) (rec : Frame → St R → Action → St R) (r : Reg) (ty v root op d : Nat)
    (async : Bool) (s : St R) :
    bodyResult cfg rec r ty v root op d async s =
      runBody rec { depth := d + 1, root := root, obs := if cfg.obs then s.c.nextObs else op, ctxAware := r.ctxAware }
        (entered r ty v root d async (openSpan cfg d .hs op ty async s)) (cfg.bodies.getD r.body []) := rfl

/-- the events of one invocation with span id `sp`, given those of the body and whether it panicked -/
def invEvs (cfg : Config) (r : Reg) (ty v root op d : Nat) (async : Bool) (sp : Nat) (body : List Ev)
    (pv : Option Nat) : List Ev :=
  (if cfg.obs then [Ev.obs d .hs sp op ty async] else []) ++
    (Ev.enter (d + 1) r.rid ty v (if r.ctxAware then some root else none) async :: body ++
      Ev.exit (d + 1) r.rid :: panichEvs cfg r ty v d pv) ++
    if cfg.obs then [Ev.obs d .hc sp 0 ty pv.isSome] else []

/-- the trace after an invocation whose body appended `l` -/
theorem chPost_invEvs {cfg : Config} {r : Reg} {ty v root op d : Nat} {async : Bool} {s s' : St R} {l : List Ev}
    (hl : s'.c.trace = (entered r ty v root d async (openSpan cfg d .hs op ty async s)).c.trace ++ l) :
    (chPost cfg r ty v d s.c.nextObs s').c.trace =
      s.c.trace ++ invEvs cfg r ty v root op d async s.c.nextObs l s'.c.panicking := by
  rw [chPost_trace, hl, entered_trace, openSpan_trace]
  simp only [invEvs, List.append_assoc, List.cons_append, List.nil_append]

theorem callHandler_trace (cfg : Config) (rec : Frame → St R → Action → St R) (r : Reg) (ty v root op d : Nat)
    (async : Bool) (s : St R) {l : List Ev}
    (hl : (bodyResult cfg rec r ty v root op d async s).c.trace =
      (entered r ty v root d async (openSpan cfg d .hs op ty async s)).c.trace ++ l) :
    (callHandler cfg rec r ty v root op d async s).c.trace = s.c.trace ++
      invEvs cfg r ty v root op d async s.c.nextObs l (bodyResult cfg rec r ty v root op d async s).c.panicking := by
  rw [callHandler_eq, ← bodyResult_eq]
  exact chPost_invEvs hl

def filtEv (d v : Nat) (r : Reg) : List Ev :=
  match r.filt with
  | some _ => [Ev.filt d r.rid v (r.accepts v)]
  | none => []

/-- the filter of `r`, evaluated by a publish with context `root`, cancels that context -/
def cancelsAt (r : Reg) (root : Nat) : Bool := r.filt.isSome && r.filtCancels && root != 0

@[simp] theorem cancelsAt_zero (r : Reg) : cancelsAt r 0 = false := by simp [cancelsAt]

/-- the filter phase of `deliver` -/
def dFilt (d v root : Nat) (r : Reg) (s : St R) : St R :=
  let s1 : St R := match r.filt with
    | some _ => { s with c := s.c.emit (.filt d r.rid v (r.accepts v)) }
    | none => s
  if r.filt.isSome && r.filtCancels then cancelRoot root s1 else s1

def dClaim (r : Reg) (s : St R) : St R :=
  if r.once then { s with c := { s.c with executed := r.rid :: s.c.executed } } else s

def dClaimed (r : Reg) (claimed : List Reg) : List Reg := if r.once then claimed ++ [r] else claimed

def dPark (p : Pending) (s : St R) : St R := { s with c := { s.c with pending := s.c.pending ++ [p] } }

theorem dFilt_eq (d v root : Nat) (r : Reg) (s : St R) :
    dFilt d v root r s = { s with c := { s.c with
      rtrace := (filtEv d v r).reverse ++ s.c.rtrace
      cancelled := if cancelsAt r root then root :: s.c.cancelled else s.c.cancelled } } := by
  obtain ⟨reg, c⟩ := s
  unfold dFilt filtEv cancelsAt cancelRoot
  cases hf : r.filt <;> cases hc : r.filtCancels <;> by_cases h0 : root = 0 <;> simp [h0, Core.emit]

theorem dFilt_trace (d v root : Nat) (r : Reg) (s : St R) :
    (dFilt d v root r s).c.trace = s.c.trace ++ filtEv d v r := by
  rw [dFilt_eq]; simp [trace_mk, rtrace_reverse]

theorem dFilt_live (d v root : Nat) (r : Reg) (s : St R) :
    (dFilt d v root r s).c.live root = (s.c.live root && !cancelsAt r root) := by
  rw [dFilt_eq]
  cases cancelsAt r root <;> simp [Core.live]

theorem dClaim_eq (r : Reg) (s : St R) :
    dClaim r s = { s with c := { s.c with executed := if r.once then r.rid :: s.c.executed else s.c.executed } } := by
  unfold dClaim
  cases r.once <;> rfl

/-- the dispatch loop passes `r` over; the publish context may be cancelled by the filter of `r` itself -/
def skips (r : Reg) (v root : Nat) (c : Core) : Prop :=
  r.accepts v = false ∨ (c.live root = false ∨ cancelsAt r root = true) ∨ (r.once = true ∧ r.rid ∈ c.executed)

instance (r : Reg) (v root : Nat) (c : Core) : Decidable (skips r v root c) := by unfold skips; infer_instance

section deliver
variable (cfg : Config) (rec : Frame → St R → Action → St R)

/-- `deliver` in pieces, with the tests where the model makes them; a stepping stone to `deliver_cases` -/
theorem deliver_eq (ty v root obs d : Nat) (s : St R) (cl : List Reg) (r : Reg) :
    deliver cfg rec ty v root obs d (s, cl) r =
      let s1 := dFilt d v root r s
      let s2 := dClaim r s1
      if !r.accepts v then (s1, cl)
      else if !s1.c.live root then (s1, cl)
      else if r.once && s1.c.executed.contains r.rid then (s1, cl)
      else if r.async then (dPark ⟨r, ty, v, root, obs, d⟩ s2, dClaimed r cl)
      else if !s2.c.live root then (s2, dClaimed r cl)
      else (callHandler cfg rec r ty v root obs d false s2, dClaimed r cl) := rfl

/-- one turn of the dispatch loop, with the tests it makes moved to the state before the filter phase: the filter
phase alone if the registration is passed over, else the claim and the invocation, parked if asynchronous -/
theorem deliver_cases (ty v root obs d : Nat) (s : St R) (cl : List Reg) (r : Reg) :
    deliver cfg rec ty v root obs d (s, cl) r =
      if skips r v root s.c then (dFilt d v root r s, cl)
      else if r.async then (dPark ⟨r, ty, v, root, obs, d⟩ (dClaim r (dFilt d v root r s)), dClaimed r cl)
      else (callHandler cfg rec r ty v root obs d false (dClaim r (dFilt d v root r s)), dClaimed r cl) := by
  have hl : (dClaim r (dFilt d v root r s)).c.live root = (dFilt d v root r s).c.live root := by
    rw [dClaim_eq]; rfl
  have he : (dFilt d v root r s).c.executed = s.c.executed := by rw [dFilt_eq]
  simp only [deliver_eq, hl, he, dFilt_live]
  cases ha : r.accepts v <;> cases hv : s.c.live root <;> cases hc : cancelsAt r root <;> simp [skips, ha, hv, hc]

end deliver

theorem eraseFirst_sublist (p : Reg → Bool) (l : List Reg) : (eraseFirst p l).Sublist l := by
  induction l with
  | nil => exact List.Sublist.refl _
  | cons r rs ih =>
    simp only [eraseFirst]
    split
    · exact List.sublist_cons_self r rs
    · exact ih.cons_cons r

theorem retire_sublist (claimed hs : List Reg) : (retire claimed hs).Sublist hs := by
  induction claimed generalizing hs with
  | nil => exact List.Sublist.refl _
  | cons c cs ih =>
    simp only [retire, List.foldl_cons]
    exact (ih _).trans (eraseFirst_sublist _ _)

theorem get_set_sublist {I : RegImpl R} (hI : I.Lawful) {reg : R} {ty : Nat} {l : List Reg}
    (hl : l.Sublist (I.get reg ty)) (t : Nat) : (I.get (I.set reg ty l) t).Sublist (I.get reg t) := by
  rw [hI.get_set]
  split
  · rename_i ht; subst ht; exact hl
  · exact List.Sublist.refl _

/-- the context handed to PublishContext: (root, obs0, state) -/
def pubCtx (fr : Frame) (sel : CtxSel) (s : St R) : Nat × Nat × St R :=
  match sel with
  | .bg => (0, 0, s)
  | .fresh => (s.c.nextCtx, 0, { s with c := { s.c with nextCtx := s.c.nextCtx + 1 } })
  | .dead => (s.c.nextCtx, 0, { s with c := { s.c with nextCtx := s.c.nextCtx + 1, cancelled := s.c.nextCtx :: s.c.cancelled } })
  | .inherit => if fr.ctxAware then (fr.root, fr.obs, s) else (0, 0, s)

def pubBefore (cfg : Config) (d ty v : Nat) (bad : Bool) (obs : Nat) (s : St R) : St R :=
  let s := { s with c := emitIf cfg.hookBL s.c (.hook d .bl ty v) }
  let s := { s with c := emitIf cfg.hookBC s.c (.hook d .bc ty v) }
  { s with c := persist cfg d ty v bad obs s.c }

def pubAfter (I : RegImpl R) (cfg : Config) (d ty v : Nat) (p : St R × List Reg) : St R :=
  let (s, claimed) := p
  let s := if claimed.isEmpty then s else { s with reg := I.set s.reg ty (retire claimed (I.get s.reg ty)) }
  let s := { s with c := emitIf cfg.hookAL s.c (.hook d .al ty v) }
  { s with c := emitIf cfg.hookAC s.c (.hook d .ac ty v) }

/-- the span under which the handlers of a publish run -/
def pubObs (cfg : Config) (fr : Frame) (sel : CtxSel) (s : St R) : Nat :=
  if cfg.obs then (pubCtx fr sel s).2.2.c.nextObs else (pubCtx fr sel s).2.1

/-- the state when `publish` takes its snapshot of the registrations -/
def pubSnap (cfg : Config) (fr : Frame) (ty v : Nat) (bad : Bool) (sel : CtxSel) (s : St R) : St R :=
  pubBefore cfg fr.depth ty v bad (pubObs cfg fr sel s)
    (openSpan cfg fr.depth .ps (pubCtx fr sel s).2.1 ty false (pubCtx fr sel s).2.2)

/-- the dispatch loop of a publish: the state it leaves and the once-handlers it claimed -/
def pubLoop (I : RegImpl R) (cfg : Config) (rec : Frame → St R → Action → St R) (fr : Frame) (ty v : Nat) (bad : Bool)
    (sel : CtxSel) (s : St R) : St R × List Reg :=
  (I.get (pubSnap cfg fr ty v bad sel s).reg ty).foldl
    (deliver cfg rec ty v (pubCtx fr sel s).1 (pubObs cfg fr sel s) fr.depth) (pubSnap cfg fr ty v bad sel s, [])

theorem publish_eq (I : RegImpl R) (cfg : Config) (rec : Frame → St R → Action → St R) (fr : Frame) (ty v : Nat)
    (bad : Bool) (sel : CtxSel) (s : St R) :
    publish I cfg rec fr ty v bad sel s = closeSpan cfg fr.depth .pc (pubCtx fr sel s).2.2.c.nextObs ty false
      (pubAfter I cfg fr.depth ty v (pubLoop I cfg rec fr ty v bad sel s)) := rfl

end

end Ebu.Bus
