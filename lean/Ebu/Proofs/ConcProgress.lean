import Ebu.Spec.ConcProgress
import Ebu.Proofs.Conc
/-!
Deadlock freedom of the interleaving model M2 (C03, C06, C07): under the rank hypothesis of `Ebu.Spec.ConcProgress`, in
every reachable state in which some goroutine is unfinished some goroutine can take a step (`deadlock_free`).

The argument follows who waits for whom.  A goroutine that cannot move waits for a Sequential mutex, for its turn, or
(`Wait`) for the in-flight counter, and every wait points at another unfinished goroutine: the one inside the handler
(`mutex_reachable`); the one that holds the ticket being served, or the one in its turn (`TkX`); one that is counted in
flight (`infl_reachable`).  That goroutine can move, or it waits itself, and then with a strictly smaller measure, where
a mutex wait measures `2·ρ(type of the innermost activation)` and a turn wait `2·ρ(type of the job) + 1` (`BlockedAt`):
following the waits ends at a goroutine that can move (`blocked_leads_to_enabled`).

The measure decreases because the activations of a goroutine respect the rank (`Stack.rank`): a publish from a handler
body has at most the rank of the handler's type, less if the handler is synchronous and Sequential, and never more than
the rank of the goroutine's job.  For this every registration has to come from a ranked `Subscribe` call, and identities
have to be unique, so that the registration waited for is the one somebody is inside of (`Hist`).

What the activations of a goroutine look like is one invariant, `ThW`, which says what `ThOK` leaves open.  The rank
discipline is read off it, given that the handlers are ranked; so is who can be inside an async handler; and it makes the
`none` branches of `step` unreachable, so that a goroutine that is enabled does step (`step_of_enabled`).
-/
namespace Ebu.Conc
namespace Inv

/-- what the program counter says about the innermost activation `f`, with the activations `fs` under it, beyond `ThOK`:
the registration it names has the type published; back in a handler body the activation is in a handler; a "handler.lock"
reached from the goroutine of an async handler is parked in its only activation, any other is that of a synchronous handler;
at "publish.retired" the claims are gone; a finished goroutine has no activation -/
def AtPc (f : Frame) (fs : List Frame) : Pc → Prop
  | .op => f.handler.isSome = true
  | .filter r | .claimed r | .spawn r _ _ | .enter r | .exit r => r.ty = f.ty
  | .lock r a => r.ty = f.ty ∧ (a = true → fs = []) ∧ (a = false → r.async = false)
  | .retired => f.claimed = []
  | .done => False
  | _ => True

/-- The innermost activation `f` of a goroutine parked at `pc`, with the activations `fs` under it.  It is well-typed: what
is left of its snapshot and its running handler are registrations of the type published, and what is left of the body is
part of the handler's body; an async handler runs only in the goroutine started for it.  The handler running in the
activation under it published it.  At the bottom of an async goroutine it is the activation of the job, which claims
nothing. -/
structure FrW (job : Option Job) (pc : Pc) (f : Frame) (fs : List Frame) : Prop where
  rest : ∀ r ∈ f.rest, r.ty = f.ty
  hand : ∀ r, f.handler = some r → r.ty = f.ty ∧ (∀ p ∈ f.body, p ∈ r.body) ∧
    (r.async = true → ∃ j, job = some j ∧ j.reg = r)
  pub : ∀ g gs, fs = g :: gs → ∀ r, g.handler = some r → ∃ v, (f.ty, v) ∈ r.body
  bot : fs = [] → ∀ j, job = some j → f.ty = j.ty ∧ f.claimed = []
  pc : AtPc f fs pc

/-- the activations of a goroutine parked at `pc`, innermost first: those under the innermost one are suspended in a handler
body, as if the goroutine had returned there (`.op`) -/
def Stack (job : Option Job) : Pc → List Frame → Prop
  | _, [] => True
  | pc, f :: fs => FrW job pc f fs ∧ Stack job .op fs

/-- the well-formed threads: the job is one of its registration's type, and the activations are a `Stack` -/
structure ThW (th : Thread) : Prop where
  job : ∀ j, th.job = some j → j.reg.ty = j.ty
  stk : Stack th.job th.pc th.frames

theorem ThW.congr {th th' : Thread} (h : ThW th) (h1 : th'.pc = th.pc) (h2 : th'.frames = th.frames)
    (h3 : th'.job = th.job) : ThW th' :=
  ⟨h3 ▸ h.job, by rw [h1, h2, h3]; exact h.stk⟩

theorem ThW.top {th : Thread} (h : ThW th) {f : Frame} {fs : List Frame} (hfr : th.frames = f :: fs) :
    FrW th.job th.pc f fs ∧ Stack th.job .op fs := by
  have := h.stk; rwa [hfr] at this

theorem ThW.at {th : Thread} (h : ThW th) {pc : Pc} {f : Frame} {fs : List Frame} (hpc : th.pc = pc)
    (hfr : th.frames = f :: fs) : AtPc f fs pc :=
  hpc ▸ (h.top hfr).1.pc

theorem FrW.idle {job : Option Job} {pc : Pc} {f : Frame} {fs : List Frame} (hn : f.handler = none)
    (rest : ∀ r ∈ f.rest, r.ty = f.ty)
    (pub : ∀ g gs, fs = g :: gs → ∀ r, g.handler = some r → ∃ v, (f.ty, v) ∈ r.body)
    (bot : fs = [] → ∀ j, job = some j → f.ty = j.ty ∧ f.claimed = []) (hpc : AtPc f fs pc) : FrW job pc f fs :=
  ⟨rest, fun _ e => absurd (hn ▸ e) nofun, pub, bot, hpc⟩

/-- (Stated, like `ThW.on`, for the components of the thread, so that it applies to the thread a step leaves behind as it
stands.) -/
theorem ThW.of_nil {prog : List Op} {frames : List Frame} {pc : Pc} {job : Option Job} (hfr : frames = [])
    (hj : ∀ j, job = some j → j.reg.ty = j.ty) : ThW ⟨prog, frames, pc, job⟩ :=
  ⟨hj, hfr ▸ trivial⟩

theorem ThW.on {prog : List Op} {frames : List Frame} {pc : Pc} {job : Option Job} {g : Frame} {fs : List Frame}
    (hfr : frames = g :: fs) (hj : ∀ j, job = some j → j.reg.ty = j.ty) (hg : FrW job pc g fs) (hs : Stack job .op fs) :
    ThW ⟨prog, frames, pc, job⟩ :=
  ⟨hj, hfr ▸ ⟨hg, hs⟩⟩

theorem ThW.idle_nil {th : Thread} (hs : ThW th) (hok : ThOK th) (h : idle th.pc = true) : th.frames = [] := by
  cases hpc : th.pc <;> simp [idle, hpc] at h <;> simp only [ThOK, hpc] at hok
  case done =>
    cases hfr : th.frames with
    | nil => rfl
    | cons f fs => exact (hs.at hpc hfr).elim
  all_goals exact hok.2

/-- what `ThW` needs to know of the place where the dispatch loop stops (the `PF`, `PC`, `PG` of `Shape.thW`): `r` is a
registration of the type published, and what is left to dispatch, `l`, is part of `f.rest` (`Suf.qp`) -/
def QP (f : Frame) (r : Reg) (l : List Reg) : Prop :=
  r.ty = f.ty ∧ ∀ x ∈ l, x ∈ f.rest

theorem Suf.qp {f : Frame} {r : Reg} {l : List Reg} (hf : ∀ r ∈ f.rest, r.ty = f.ty) (h : Suf f.rest r l) : QP f r l :=
  ⟨hf r h.mem, fun _ hx => h.tail.subset hx⟩

theorem Shape.thW {sh th f fs o} (h : Shape sh th f fs (QP f) (QP f) (QP f) o)
    (hj : ∀ j, th.job = some j → j.reg.ty = j.ty) (hrest : ∀ r ∈ f.rest, r.ty = f.ty)
    (hpub : ∀ g gs, fs = g :: gs → ∀ r, g.handler = some r → ∃ v, (f.ty, v) ∈ r.body)
    (hs : Stack th.job .op fs) (hfn : f.handler = none) (hne : th.job.isSome → fs ≠ []) : ThW o.th := by
  have bot : ∀ {P : Job → Prop}, fs = [] → ∀ j, th.job = some j → P j :=
    fun e j hj => absurd e (hne (by simp [hj]))
  cases h
  case ret => exact ⟨hj, hs⟩
  case retire => exact ⟨hj, .idle hfn (by simp) hpub bot trivial, hs⟩
  case filter hp _ | claimed hp _ _ _ | spawn hp _ =>
    exact ⟨hj, .idle hfn (fun x hx => hrest x (hp.2 x hx)) hpub bot hp.1, hs⟩
  case lock hp ha _ _ =>
    exact ⟨hj, .idle hfn (fun x hx => hrest x (hp.2 x hx)) hpub bot ⟨hp.1, nofun, fun _ => ha⟩, hs⟩
  case enter hp ha _ _ => exact ⟨hj, ⟨fun x hx => hrest x (hp.2 x hx), by simp [hp.1, ha], hpub, bot, hp.1⟩, hs⟩

theorem newFrame_rest (sh : Shared) (ty v : Nat) (ctx : Ctx) : ∀ r ∈ (newFrame sh ty v ctx).rest, r.ty = ty := by
  intro r hr
  simp only [newFrame, List.mem_filter, beq_iff_eq] at hr
  exact hr.2

theorem ThW.push {sh : Shared} {th : Thread} {f : Frame} {fs : List Frame} {ty v : Nat} {more : List (Nat × Nat)}
    (hi : ThW th) (hfr : th.frames = f :: fs) (hh : f.handler.isSome = true) (hb : f.body = (ty, v) :: more) :
    ThW { th with frames := newFrame sh ty v .bg :: { f with body := more } :: fs, pc := .snap } := by
  obtain ⟨hf, hs⟩ := hi.top hfr
  refine .on rfl hi.job (.idle rfl (newFrame_rest _ _ _ _) ?_ nofun trivial)
    ⟨⟨hf.rest,
      fun r hr => ⟨(hf.hand r hr).1, fun p hp => (hf.hand r hr).2.1 p (by simp [hb, hp]), (hf.hand r hr).2.2⟩,
      hf.pub, hf.bot, hh⟩, hs⟩
  rintro _ _ ⟨⟩ r hr
  exact ⟨v, (hf.hand r hr).2.1 (ty, v) (by simp [hb])⟩

theorem StepR.thW {sh th o} (h : StepR sh th o) (hok : ThOK th) (hi : ThW th) : ThW o.th := by
  cases h
  case snap hfr hsh | filterRej hfr _ hsh | spawn hfr hsh =>
    obtain ⟨hf, hs⟩ := hi.top hfr
    have ht := hok.top hfr (by simp [*])
    exact (hsh.stops fun _ _ => Suf.qp hf.rest).thW hi.job hf.rest hf.pub hs ht.1 ht.2
  case filterAcc hpc hfr _ hsh | claimed hpc hfr hsh =>
    obtain ⟨hf, hs⟩ := hi.top hfr
    have ht := hok.top hfr (by simp [*])
    exact (hsh.stops (fun _ _ => Suf.qp hf.rest) ⟨hi.at hpc hfr, fun _ h => h⟩).thW hi.job hf.rest hf.pub hs ht.1 ht.2
  case lockDeadSync hpc hfr hj _ _ hsh =>
    obtain ⟨hf, hs⟩ := hi.top hfr
    exact (hsh.stops fun _ _ => Suf.qp hf.rest).thW hi.job hf.rest hf.pub hs (hok.lock hpc hfr).2 (ne_nil_of_job hj)
  case exit hfr hj hsh =>
    obtain ⟨hf, hs⟩ := hi.top hfr
    exact (hsh.stops fun _ _ => Suf.qp hf.rest).thW hi.job hf.rest hf.pub hs rfl (ne_nil_of_job hj)
  case subscribe | unsubscribe | clear | cancel | count | wait => exact hi.congr rfl rfl rfl
  case fin hfr _ => exact .of_nil hfr hi.job
  case lockDeadJob | exitJob => exact .of_nil rfl hi.job
  case astartSeq | astartDead | turnDead | aend => exact .of_nil (hi.idle_nil hok (by simp [idle, *])) hi.job
  case retired hfr => exact ⟨hi.job, (hi.top hfr).2⟩
  case bodyEnd hpc hfr _ hh =>
    obtain ⟨hf, hs⟩ := hi.top hfr
    exact .on hfr hi.job ⟨hf.rest, hf.hand, hf.pub, hf.bot, (hf.hand _ hh).1⟩ hs
  case enterEnd r f fs hpc hfr _ =>
    obtain ⟨hf, hs⟩ := hi.top hfr
    exact .on hfr hi.job ⟨hf.rest, hf.hand, hf.pub, hf.bot, show r.ty = f.ty from hi.at hpc hfr⟩ hs
  case retire hfr =>
    obtain ⟨hf, hs⟩ := hi.top hfr
    exact .on rfl hi.job ⟨hf.rest, hf.hand, hf.pub, fun e j hj => ⟨(hf.bot e j hj).1, rfl⟩, rfl⟩ hs
  case lock r a f fs hpc hfr _ _ =>
    obtain ⟨hf, hs⟩ := hi.top hfr
    have hr : r.ty = f.ty ∧ _ := hi.at hpc hfr
    refine .on rfl hi.job ⟨hf.rest, ?_, hf.pub, hf.bot, hr.1⟩ hs
    -- the handler entered is synchronous when the lock was taken in the publisher, the job's own otherwise
    simp only [Option.some.injEq, forall_eq']
    refine ⟨hr.1, fun _ h => h, ?_⟩
    cases a
    · simp [hr.2.2 rfl]
    · exact fun _ => (hok.lockT hpc).2
  case bodyPub hpc hfr hb => exact hi.push hfr (hi.at hpc hfr) hb
  case enterPub hpc hfr hb => exact hi.push hfr (by simp [hok.handler (.inl hpc) hfr]) hb
  case publish hpc hfr _ =>
    refine .on rfl hi.job (.idle rfl (newFrame_rest _ _ _ _) (by simp) (fun _ j hj => ?_) trivial) trivial
    -- a thread that calls `Publish` from its program is not an async goroutine
    simp [ThOK, hpc, hj, hfr] at hok
  case astartRun j _ hj _ _ =>
    exact .on rfl hi.job ⟨by simp [jobFrame], by simpa [jobFrame] using ⟨hi.job j hj, fun _ => ⟨j, hj, rfl⟩⟩,
      by simp, fun _ j' hj' => by cases hj.symm.trans hj'; simp [jobFrame], hi.job j hj⟩ trivial
  case turnRun j _ hj _ _ =>
    exact .on rfl hi.job (.idle rfl (by simp [jobFrame]) (by simp)
      (fun _ j' hj' => by cases hj.symm.trans hj'; simp [jobFrame]) ⟨hi.job j hj, fun _ => rfl, nofun⟩) trivial

theorem StepR.thW_new {sh th o} (h : StepR sh th o) (hi : ThW th) : ∀ t ∈ o.new, ThW t := by
  rcases h.new_spawn with e | ⟨r, n, t, f, fs, hpc, hfr, e⟩ <;> rw [e]
  · simp
  · exact List.forall_mem_singleton.2 (.of_nil rfl fun j e => by cases e; exact hi.at hpc hfr)

theorem thW_reachable {progs : List (List Op)} : ∀ s, Reachable progs s → ∀ th ∈ s.ths, ThW th := by
  apply reach_ind
  · intro th hth
    obtain ⟨p, _, rfl⟩ := mem_initSys hth
    exact .of_nil rfl (by simp)
  · intro s i th o hr hi hth _ hR t ht
    have hm := List.mem_of_getElem? hth
    rcases mem_step_cases ht with ht | rfl | ht
    · exact hi t ht
    · exact hR.thW (thOK_reachable s hr th hm) (hi th hm)
    · exact hR.thW_new (hi th hm) t ht

theorem Stack.hand {job : Option Job} {frames : List Frame} {g : Frame} {r : Reg} (hg : g ∈ frames)
    (hr : g.handler = some r) :
    ∀ {pc}, Stack job pc frames → r.ty = g.ty ∧ (r.async = true → ∃ j, job = some j ∧ j.reg = r) := by
  induction frames with
  | nil => cases hg
  | cons f fs ih =>
    intro pc h
    rcases List.mem_cons.1 hg with rfl | hg
    · exact ⟨(h.1.hand r hr).1, (h.1.hand r hr).2.2⟩
    · exact ih hg h.2

/-- the rank condition of `RankedOp`, for a registration -/
def RankedReg (ρ : Nat → Nat) (r : Reg) : Prop :=
  ∀ p ∈ r.body, ρ p.1 ≤ ρ r.ty ∧ (r.seq = true → r.async = false → ρ p.1 < ρ r.ty)

def Below (ρ : Nat → Nat) (f g : Frame) : Prop :=
  ρ f.ty ≤ ρ g.ty ∧ ∀ r, g.handler = some r → r.seq = true → r.async = false → ρ f.ty < ρ g.ty

/-- The rank discipline: when the handlers running in the activations under `f` respect the rank, `f` is `Below` all of
them and does not outrank the job – each activation was published by the handler in the one under it. -/
theorem Stack.rank {ρ : Nat → Nat} {job : Option Job} {fs : List Frame} :
    ∀ {pc f}, Stack job pc (f :: fs) → (∀ g ∈ fs, ∀ r, g.handler = some r → RankedReg ρ r) →
      (∀ g ∈ fs, Below ρ f g) ∧ ∀ j, job = some j → ρ f.ty ≤ ρ j.ty := by
  induction fs with
  | nil => exact fun h _ => ⟨List.forall_mem_nil _, fun j hj => Nat.le_of_eq (congrArg ρ (h.1.bot rfl j hj).1)⟩
  | cons g gs ih =>
    intro pc f h hrk
    obtain ⟨r, hr⟩ := Option.isSome_iff_exists.1 h.2.1.pc
    obtain ⟨v, hv⟩ := h.1.pub g gs rfl r hr
    have h1 := hrk g (by simp) r hr _ hv
    rw [(h.2.1.hand r hr).1] at h1
    obtain ⟨h2, h3⟩ := ih h.2 fun x hx => hrk x (by simp [hx])
    refine ⟨fun x hx => ?_, fun j hj => Nat.le_trans h1.1 (h3 j hj)⟩
    rcases List.mem_cons.1 hx with rfl | hx
    · exact ⟨h1.1, fun r' hr' => by cases hr.symm.trans hr'; exact h1.2⟩
    · exact ⟨Nat.le_trans h1.1 (h2 x hx).1, fun r' hr' hs ha => Nat.lt_of_le_of_lt h1.1 ((h2 x hx).2 r' hr' hs ha)⟩

theorem step_of_enabled {sh : Shared} {th : Thread} (hok : ThOK th) (hs : ThW th) (hen : enabled sh th = true) :
    ∃ o, step sh th = some o := by
  unfold step
  rw [if_neg (by simp [hen])]
  have hok' := hok
  cases hpc : th.pc <;> simp only [ThOK, hpc] at hok <;> simp only []
  case op =>
    cases hfr : th.frames with
    | nil =>
      simp only []
      cases hp : th.prog with
      | nil => exact ⟨_, rfl⟩
      | cons op prog => cases op <;> exact ⟨_, rfl⟩
    | cons f fs =>
      have : f.handler.isSome = true := hs.at hpc hfr
      simp only []
      cases hb : f.body with
      | cons p more => obtain ⟨ty, v⟩ := p; exact ⟨_, rfl⟩
      | nil =>
        cases hh : f.handler with
        | none => simp [hh] at this
        | some r => exact ⟨_, rfl⟩
  case done => simp [enabled, hpc] at hen
  case snap | claimed | spawn | retire | retired =>
    obtain ⟨⟨f, fs, hfr, _⟩, _⟩ := hok
    simp only [hfr]
    exact ⟨_, rfl⟩
  case filter =>
    obtain ⟨⟨f, fs, hfr, _⟩, _⟩ := hok
    simp only [hfr]
    split <;> exact ⟨_, rfl⟩
  case lock r a =>
    obtain ⟨f, fs, hfr⟩ := hok'.lock_frames hpc
    simp only [hfr]
    split
    · split <;> exact ⟨_, rfl⟩
    · exact ⟨_, rfl⟩
  case enter r =>
    obtain ⟨f, fs, hfr, _⟩ := hok
    simp only [hfr]
    split <;> exact ⟨_, rfl⟩
  case exit r =>
    obtain ⟨f, fs, hfr, _⟩ := hok
    simp only [hfr]
    split
    · exact ⟨_, rfl⟩
    · exact ⟨_, rfl⟩
    · rename_i h; simp at h
  case astart =>
    obtain ⟨⟨j, hj⟩, _⟩ := hok
    simp only [hj]
    split
    · exact ⟨_, rfl⟩
    · split <;> exact ⟨_, rfl⟩
  case turn =>
    obtain ⟨⟨j, hj, _⟩, _⟩ := hok
    simp only [hj]
    split <;> exact ⟨_, rfl⟩
  case aend => exact ⟨_, rfl⟩

theorem enabled_of_stepAt {s s' : Sys} {i : Nat} (h : s.stepAt i = some s') :
    ∃ th ∈ s.ths, enabled s.sh th = true := by
  obtain ⟨th, o, hth, ho, _⟩ := stepAt_cases h
  refine ⟨th, List.mem_of_getElem? hth, ?_⟩
  cases hen : enabled s.sh th with
  | true => rfl
  | false => simp [step, hen] at ho

theorem Shape.claim {sh th f fs PF PC PG o} (h : Shape sh th f fs PF PC PG o) :
    o.sh.executed = sh.executed ∨ ∃ r g gs, o.th.pc = .claimed r ∧ r.once = true ∧ o.sh.executed = r.rid :: sh.executed ∧
      o.th.frames = g :: gs ∧ r.rid ∈ g.claimed := by
  cases h
  case claimed r l _ ho _ _ => exact .inr ⟨r, _, _, rfl, ho, rfl, rfl, by simp⟩
  case enter => exact .inl (noteEnter_executed ..)
  all_goals exact .inl rfl

theorem StepR.claim {sh th o} (h : StepR sh th o) :
    o.sh.executed = sh.executed ∨ ∃ r g gs, o.th.pc = .claimed r ∧ r.once = true ∧ o.sh.executed = r.rid :: sh.executed ∧
      o.th.frames = g :: gs ∧ r.rid ∈ g.claimed := by
  cases h
  case snap | filterAcc | filterRej | claimed | spawn | lockDeadSync | exit =>
    rename_i hsh
    exact hsh.claim
  case lock | astartRun => exact .inl (noteEnter_executed ..)
  all_goals exact .inl rfl

/-- the provenance invariant: `all` lists every registration ever created, each by a `Subscribe` call of the program and
under an identity of its own; the registry holds no other, the goroutines carry (`Carried`) no other, and what has been
claimed is the identity of a Once registration among them -/
structure Hist (progs : List (List Op)) (all : List Reg) (s : Sys) : Prop where
  uniq : ∀ r ∈ all, ∀ r' ∈ all, r.rid = r'.rid → r = r'
  lt : ∀ r ∈ all, r.rid < s.sh.nextRid
  src : ∀ r ∈ all, ∃ p ∈ progs, Op.subscribe r.ty r.hid r.once r.async r.seq r.filt r.body ∈ p
  regs : ∀ r ∈ s.sh.regs, r ∈ all
  ths : ∀ th ∈ s.ths, Carried (· ∈ all) th
  ex : ∀ rid ∈ s.sh.executed, ∃ r ∈ all, r.rid = rid ∧ r.once = true

theorem hist_reachable {progs : List (List Op)} : ∀ s, Reachable progs s → ∃ all, Hist progs all s := by
  apply reach_ind
  · refine ⟨[], by simp, by simp, by simp, by simp [initSys], ?_, by simp [initSys]⟩
    intro th hth
    obtain ⟨p, _, rfl⟩ := mem_initSys hth
    exact ⟨by simp, by simp [pcReg], by simp⟩
  · intro s i th o hr ⟨all, uniq, lt, src, regs, ths, ex⟩ hth _ hR
    have hmem := List.mem_of_getElem? hth
    have hc := hR.carried regs (ths th hmem)
    have hths : ∀ t ∈ s.ths.set i o.th ++ o.new, Carried (· ∈ all) t := by
      intro t ht
      rcases mem_step_cases ht with ht | rfl | ht
      · exact ths t ht
      · exact hc
      · exact hR.carried_new (ths th hmem) t ht
    have hex : ∀ rid ∈ o.sh.executed, ∃ r ∈ all, r.rid = rid ∧ r.once = true := by
      intro rid hrid
      rcases hR.claim with e | ⟨r, _, _, hpc, ho, e, _⟩ <;> simp only [e, List.mem_cons] at hrid
      · exact ex rid hrid
      · -- claimed by this step: the registration the goroutine is now parked at
        rcases hrid with rfl | hrid
        · exact ⟨r, hc.pc r (by rw [hpc]; rfl), rfl, ho⟩
        · exact ex rid hrid
    cases hR.regStep with
    | del _ h1 _ h2 => exact ⟨all, uniq, h2 ▸ lt, src, fun r hr => regs r (h1.subset hr), hths, hex⟩
    | add ty hid once async seq filt body hp h1 _ h2 =>
      obtain ⟨p, hpp, hop⟩ := prog_reachable s hr th hmem _ (by rw [hp]; exact List.mem_cons_self ..)
      let r0 : Reg := ⟨s.sh.nextRid, ty, hid, once, async, seq, filt, body⟩
      have hrid : r0.rid = s.sh.nextRid := rfl
      have mem : ∀ {a}, a ∈ all ++ [r0] → a ∈ all ∨ a = r0 := by simp
      refine ⟨all ++ [r0], ?_, ?_, ?_, ?_, fun t ht => (hths t ht).mono fun a ha => by simp [ha],
        fun rid h => (hex rid h).imp fun a ha => ⟨by simp [ha.1], ha.2⟩⟩
      · intro a ha b hb hab
        rcases mem ha with ha' | rfl <;> rcases mem hb with hb' | rfl
        · exact uniq a ha' b hb' hab
        · have := lt a ha'; omega
        · have := lt b hb'; omega
        · rfl
      · intro a ha
        simp only [h2]
        rcases mem ha with ha' | rfl
        · have := lt a ha'; omega
        · omega
      · intro a ha
        rcases mem ha with ha' | rfl
        · exact src a ha'
        · exact ⟨p, hpp, hop⟩
      · intro a ha
        simp only [h1, List.mem_append, List.mem_singleton] at ha ⊢
        exact ha.imp_left (regs a)

theorem Hist.ranked {ρ : Nat → Nat} {progs : List (List Op)} {all : List Reg} {s : Sys} (hq : Hist progs all s)
    (hrk : Ranked ρ progs) : ∀ r ∈ all, RankedReg ρ r := fun r hr =>
  have ⟨p, hp, hop⟩ := hq.src r hr
  hrk p hp _ hop

theorem Hist.rank {ρ : Nat → Nat} {progs : List (List Op)} {all : List Reg} {s : Sys} (hq : Hist progs all s)
    (hrk : Ranked ρ progs) {th : Thread} (hth : th ∈ s.ths) (hw : ThW th) {f : Frame} {fs : List Frame}
    (hfr : th.frames = f :: fs) : (∀ g ∈ fs, Below ρ f g) ∧ ∀ j, th.job = some j → ρ f.ty ≤ ρ j.ty :=
  Stack.rank (hfr ▸ hw.stk) fun g hg r hr => hq.ranked hrk r (((hq.ths th hth).frames g (by simp [hfr, hg])).2 r hr)

/-- parked at a sequential mutex that is held, or at a turn that is not the goroutine's, with the measure -/
def BlockedAt (ρ : Nat → Nat) (sh : Shared) (th : Thread) (n : Nat) : Prop :=
  (∃ r a f fs, th.pc = .lock r a ∧ th.frames = f :: fs ∧ r.rid ∈ sh.held ∧ n = 2 * ρ f.ty) ∨
  (∃ j, th.pc = .turn ∧ th.job = some j ∧ lookupD sh.serving j.reg.rid ≠ j.ticket ∧ n = 2 * ρ j.ty + 1)

theorem moves_or_blocked (ρ : Nat → Nat) {sh : Shared} {th : Thread} (hok : ThOK th) (hnd : th.pc ≠ .done)
    (hj : th.job.isSome ∨ th.frames ≠ [] ∨ sh.inflight = 0) : enabled sh th = true ∨ ∃ n, BlockedAt ρ sh th n := by
  cases hen : enabled sh th with
  | true => exact .inl rfl
  | false =>
    refine .inr ?_
    unfold enabled at hen
    split at hen
    · rename_i hpc; exact absurd hpc hnd
    · rename_i r a hpc
      obtain ⟨f, fs, hfr⟩ := hok.lock_frames hpc
      exact ⟨_, .inl ⟨r, a, f, fs, hpc, hfr, by simpa using hen, rfl⟩⟩
    · rename_i hpc
      simp only [ThOK, hpc] at hok
      obtain ⟨⟨j, hj, _⟩, _⟩ := hok
      rw [hj] at hen
      exact ⟨_, .inr ⟨j, hpc, hj, by simpa using hen, rfl⟩⟩
    · rename_i hpc
      split at hen
      · -- in `Wait`: neither a job nor an activation, and something is in flight
        rename_i hfr _
        simp only [ThOK, hpc] at hok
        rcases hj with hj | hj | hj
        · exact absurd hfr (hok hj)
        · exact absurd hfr hj
        · simp [hj] at hen
      · cases hen
    · cases hen

theorem inside_pos {rid : Nat} {th : Thread} (h : 1 ≤ inside rid th) :
    ∃ g ∈ th.frames, ∃ r, g.handler = some r ∧ r.seq = true ∧ r.rid = rid := by
  rw [inside_eq] at h
  obtain ⟨g, hg, hin⟩ := List.countP_pos_iff.1 h
  unfold insideF at hin
  split at hin
  · rename_i r hr
    exact ⟨g, hg, r, hr, by simpa using hin⟩
  · cases hin

theorem prog_pos {rid : Nat} {th : Thread} :
    1 ≤ prog rid th ↔ ∃ j, th.job = some j ∧ j.reg.seq = true ∧ j.reg.rid = rid ∧ idle th.pc = false := by
  unfold prog
  split
  · rename_i j hj
    simp only [hj, Option.some.injEq, exists_eq_left']
    split <;> simp [*]
  · rename_i hj
    simp [hj]

theorem enabled_of_hold {sh : Shared} {rid : Nat} {th : Thread} (h : 1 ≤ hold rid (lookupD sh.serving rid) th) :
    enabled sh th = true := by
  cases hpc : th.pc <;> simp only [hold, hpc] at h <;> try omega
  case spawn => simp [enabled, hpc]
  case astart => simp [enabled, hpc]
  case turn =>
    cases hj : th.job with
    | none => simp [hj] at h
    | some j =>
      simp only [hj] at h
      split at h
      · rename_i hc; simp [enabled, hpc, hj, hc.2.1, hc.2.2]
      · omega

theorem blocked_leads_to_enabled {ρ : Nat → Nat} {progs : List (List Op)} {all : List Reg} {s : Sys}
    (hr : Reachable progs s) (hq : Hist progs all s) (hrk : Ranked ρ progs) :
    ∀ n, ∀ th ∈ s.ths, BlockedAt ρ s.sh th n → ∃ th ∈ s.ths, enabled s.sh th = true := by
  intro n
  induction n using Nat.strongRecOn with
  | _ n ih =>
  intro L hL hb
  have hokL := thOK_reachable s hr L hL
  have hwL := thW_reachable s hr L hL
  have hcL := hq.ths L hL
  -- a goroutine in the middle of something can move or waits for a mutex
  have busy : ∀ H ∈ s.ths, idle H.pc = false → (H.job.isSome ∨ H.frames ≠ []) →
      (∀ r a f fs, H.pc = .lock r a → H.frames = f :: fs → 2 * ρ f.ty < n) → ∃ th ∈ s.ths, enabled s.sh th = true := by
    intro H hH hidle hjf hlt
    rcases moves_or_blocked ρ (thOK_reachable s hr H hH) (by intro h; simp [h, idle] at hidle)
      (hjf.imp_right .inl) with hen | ⟨m, hb⟩
    · exact ⟨H, hH, hen⟩
    · refine ih m ?_ H hH hb
      rcases hb with ⟨r, a, f, fs, hpc, hfr, _, rfl⟩ | ⟨j, hpc, _⟩
      · exact hlt r a f fs hpc hfr
      · simp [hpc, idle] at hidle
  rcases hb with ⟨r, a, f, fs, hpc, hfr, hheld, rfl⟩ | ⟨j, hpc, hj, hne, rfl⟩
  · -- waiting for the mutex of `r`: somebody is inside `r`
    have hm1 := (mutex_reachable s hr r.rid).1
    have hc : 0 < s.sh.held.count r.rid := List.count_pos_iff.2 hheld
    obtain ⟨H, hH, hin⟩ := wsum_pos (w := inside r.rid) (l := s.ths) (hm1 ▸ hc)
    obtain ⟨g, hg, r', hr', hseq, hrid⟩ := inside_pos hin
    have hokH := thOK_reachable s hr H hH
    have hwH := thW_reachable s hr H hH
    have hat : r.ty = f.ty ∧ (a = true → fs = []) ∧ (a = false → r.async = false) := hwL.at hpc hfr
    obtain ⟨hr'ty, hr'a⟩ := Stack.hand hg hr' hwH.stk
    cases hq.uniq _ (((hq.ths H hH).frames g hg).2 r' hr') _ (hcL.pc r (by rw [hpc]; rfl)) hrid
    have hHfr : H.frames ≠ [] := List.ne_nil_of_mem hg
    have hidleH : idle H.pc = false := by
      cases h : idle H.pc with
      | false => rfl
      | true => exact absurd (hwH.idle_nil hokH h) hHfr
    by_cases hasync : r.async = true
    · -- an async registration: both are goroutines of `r` in their turn
      obtain ⟨j2, hj2, hj2r⟩ := hr'a hasync
      cases a with
      | false => rw [hat.2.2 rfl] at hasync; cases hasync
      | true =>
        have hne : L ≠ H := by
          rintro rfl
          rw [hfr, hat.2.1 rfl, List.mem_singleton] at hg
          rw [hg, (hokL.lock hpc hfr).2] at hr'; cases hr'
        have hpL := prog_lockT hokL hpc
        have hpH := prog_pos.2 ⟨j2, hj2, by rw [hj2r]; exact hseq, by rw [hj2r], hidleH⟩
        have h2 := wsum_two (prog r.rid) hL hH hne
        have h1 := (tkX_reachable s hr r.rid).one
        omega
    · -- a synchronous Sequential handler: its thread is deeper in the rank order
      refine busy H hH hidleH (.inr hHfr) (fun r2 a2 f2 fs2 hpc2 hfr2 => ?_)
      rw [hfr2] at hg
      rcases List.mem_cons.1 hg with rfl | hg
      · rw [(hokH.lock hpc2 hfr2).2] at hr'; cases hr'
      · have hlt := ((hq.rank hrk hH hwH hfr2).1 g hg).2 r hr' hseq (by simpa using hasync)
        rw [← hr'ty, hat.1] at hlt
        omega
  · -- waiting for its turn
    have hseq := hokL.turn hpc hj
    have tkx := tkX_reachable s hr j.reg.rid
    have hheld := tkx.held j.ticket
    have hholdL : hold j.reg.rid j.ticket L = 1 := by simp [hold, hpc, hj, hseq]
    have hge : hold j.reg.rid j.ticket L ≤ wsum (hold j.reg.rid j.ticket) s.ths := le_sum_of_mem _ hL
    split at hheld
    case isFalse => omega
    rename_i hwin
    by_cases hP : wsum (prog j.reg.rid) s.ths = 0
    · -- nobody is in its turn: the goroutine holding the ticket being served can move
      obtain ⟨H, hH, hhold⟩ := wsum_pos (tkx.cover (t := lookupD s.sh.serving j.reg.rid) (by omega) (by omega))
      exact ⟨H, hH, enabled_of_hold hhold⟩
    · -- the goroutine that is in its turn waits for a mutex
      obtain ⟨H, hH, hprog⟩ := wsum_pos (w := prog j.reg.rid) (l := s.ths) (Nat.pos_of_ne_zero hP)
      obtain ⟨j2, hjH, _, hrid2, hidle2⟩ := prog_pos.1 hprog
      have hwH := thW_reachable s hr H hH
      refine busy H hH hidle2 (.inl (by simp [hjH])) (fun r2 a2 f2 fs2 hpc2 hfr2 => ?_)
      have hle := (hq.rank hrk hH hwH hfr2).2 j2 hjH
      have hreg : j2.reg = j.reg :=
        hq.uniq _ ((hq.ths H hH).job (by intro h; simp [h, idle] at hidle2) j2 hjH) _ (hcL.job (by simp [hpc]) j hj) hrid2
      rw [← hwH.job j2 hjH, hreg, hwL.job j hj] at hle
      omega

theorem some_enabled {ρ : Nat → Nat} {progs : List (List Op)} (hr : Ranked ρ progs) {s : Sys} (h : Reachable progs s)
    (hu : s.unfinished) : ∃ th ∈ s.ths, enabled s.sh th = true := by
  obtain ⟨all, hq⟩ := hist_reachable s h
  have key : ∀ th ∈ s.ths, th.pc ≠ .done → (th.job.isSome ∨ s.sh.inflight = 0) → ∃ th ∈ s.ths, enabled s.sh th = true := by
    intro th hth hnd hj
    rcases moves_or_blocked ρ (thOK_reachable s h th hth) hnd (hj.imp_right .inr) with hen | ⟨n, hb⟩
    · exact ⟨th, hth, hen⟩
    · exact blocked_leads_to_enabled h hq hr n th hth hb
  obtain ⟨th, hth, hnd⟩ := hu
  by_cases hinf : s.sh.inflight = 0
  · exact key th hth hnd (.inr hinf)
  · -- work in flight: a publisher is about to start a goroutine, or some goroutine is unfinished
    rw [infl_reachable s h] at hinf
    obtain ⟨H, hH, hw⟩ := wsum_pos (w := wInfl) (l := s.ths) (by omega)
    unfold wInfl at hw
    by_cases hsp : isSpawn H.pc = true
    · refine ⟨H, hH, ?_⟩
      unfold isSpawn at hsp
      split at hsp
      · rename_i hpc; simp [enabled, hpc]
      · cases hsp
    · simp only [hsp, Bool.false_eq_true, if_false, Nat.add_zero] at hw
      split at hw
      case isFalse => omega
      rename_i hc
      simp only [Bool.and_eq_true, bne_iff_ne, ne_eq] at hc
      exact key H hH hc.2 (.inl hc.1)

end Inv

open Ebu.Conc.Inv

/-- DEADLOCK FREEDOM of the interleaving model: under every schedule, as long as some goroutine has not
finished, some goroutine can take a step -/
theorem deadlock_free (ρ : Nat → Nat) (progs : List (List Op)) (hr : Ranked ρ progs)
    (s : Sys) (h : Reachable progs s) (hu : s.unfinished) : s.canStep := by
  obtain ⟨th, hth, hen⟩ := some_enabled hr h hu
  obtain ⟨o, ho⟩ := step_of_enabled (thOK_reachable s h th hth) (thW_reachable s h th hth) hen
  obtain ⟨i, hi⟩ := List.getElem?_of_mem hth
  exact ⟨i, { sh := o.sh, ths := s.ths.set i o.th ++ o.new }, by simp only [Sys.stepAt, hi, ho]⟩

namespace ProgressExample

def run (s : Sys) : List Nat → Option Sys
  | [] => some s
  | i :: is => (s.stepAt i).bind (fun s' => run s' is)

end ProgressExample

theorem run_reachable {progs : List (List Op)} {sched : List Nat} {s s' : Sys} (hr : Reachable progs s)
    (h : ProgressExample.run s sched = some s') : Reachable progs s' := by
  induction sched generalizing s with
  | nil => cases h; exact hr
  | cons i is ih =>
    obtain ⟨s1, hst, h⟩ := Option.bind_eq_some_iff.1 h
    exact ih (.step hr hst) h

/-! ### the hypothesis is satisfiable, and it is needed -/

namespace ProgressExample

/-- two threads; `A` (synchronous, Sequential, on type 2) publishes type 1, where the synchronous Sequential
`B` and the Async+Sequential `C` listen; both publish type 0, where the synchronous Sequential `D` listens;
both threads end in `Wait` -/
def exProgs : List (List Op) :=
  [ [ .subscribe 2 0 false false true none [(1, 7)],          -- A
      .subscribe 1 1 false false true none [(0, 2)],          -- B
      .subscribe 1 2 false true true none [(0, 1), (1, 9)],   -- C: Async+Sequential, publishes its own type too
      .subscribe 0 3 true false true (some (2, 1)) [],        -- D
      .publish 2 5 .bg,
      .wait ],
    [ .publish 2 6 .bg,
      .publish 1 3 (.shared 1),
      .cancel 1,
      .wait ] ]

def exRank : Nat → Nat := fun ty => ty

theorem exProgs_ranked : Ranked exRank exProgs := by
  intro p hp op hop
  simp only [exProgs, List.mem_cons, List.not_mem_nil, or_false] at hp
  rcases hp with rfl | rfl <;>
    simp only [List.mem_cons, List.not_mem_nil, or_false] at hop <;>
    rcases hop with rfl | rfl | rfl | rfl | rfl | rfl <;> simp [RankedOp, exRank]

example (s : Sys) (h : Reachable exProgs s) (hu : s.unfinished) : s.canStep :=
  deadlock_free exRank exProgs exProgs_ranked s h hu

/-- a prefix of a schedule of `exProgs`: both threads publish type 2, thread 0 enters `A` -/
def exSched : List Nat := [0, 0, 0, 0, 0, 1, 0, 1, 0]

theorem exRuns : (run (initSys exProgs) exSched).isSome = true := by decide +kernel

/-- thread 0 is inside `A`, thread 1 waits for the mutex of `A` -/
def exState : Sys := (run (initSys exProgs) exSched).get exRuns

/-- the theorem applies to a state in which a thread is blocked -/
example : Reachable exProgs exState ∧ (∃ th ∈ exState.ths, th.pc ≠ .done ∧ enabled exState.sh th = false) ∧
    exState.canStep := by
  have hr : Reachable exProgs exState := run_reachable .init (Option.some_get exRuns).symm
  have hb : (exState.ths.any (fun th => th.pc != .done && !enabled exState.sh th)) = true := by decide +kernel
  obtain ⟨th, hth, hpc⟩ := List.any_eq_true.1 hb
  simp only [Bool.and_eq_true, bne_iff_ne, ne_eq, Bool.not_eq_eq_eq_not, Bool.not_true] at hpc
  exact ⟨hr, ⟨th, hth, hpc.1, hpc.2⟩, deadlock_free exRank exProgs exProgs_ranked _ hr ⟨th, hth, hpc.1⟩⟩

/-- without a rank: `A` on type 1 publishes type 2, `B` on type 2 publishes type 1, both synchronous and
Sequential -/
def dlProgs : List (List Op) :=
  [ [ .subscribe 1 0 false false true none [(2, 0)],
      .subscribe 2 1 false false true none [(1, 0)],
      .publish 1 0 .bg ],
    [ .publish 2 0 .bg ] ]

/-- both publish, each enters "its" handler, each handler publishes the other type -/
def dlSched : List Nat := [0, 0, 0, 1, 0, 1, 0, 1, 0, 1, 0, 1]

theorem dlRuns : (run (initSys dlProgs) dlSched).isSome = true := by decide +kernel

/-- thread 0 holds the mutex of `A` and waits for that of `B`; thread 1 the other way round -/
def dlState : Sys := (run (initSys dlProgs) dlSched).get dlRuns

theorem dl_deadlock : Reachable dlProgs dlState ∧ dlState.unfinished ∧ ¬ dlState.canStep := by
  refine ⟨run_reachable .init (Option.some_get dlRuns).symm, ?_, ?_⟩
  · have : (dlState.ths.any (fun th => th.pc != .done)) = true := by decide +kernel
    obtain ⟨th, hth, hpc⟩ := List.any_eq_true.1 this
    exact ⟨th, hth, by simpa using hpc⟩
  · rintro ⟨i, s', h⟩
    obtain ⟨th, hth, hen⟩ := enabled_of_stepAt h
    have : (dlState.ths.all (fun th => !enabled dlState.sh th)) = true := by decide +kernel
    have := List.all_eq_true.1 this th hth
    simp [hen] at this

/-- hence `dlProgs` has no rank: the hypothesis of `deadlock_free` cannot be dropped -/
theorem dlProgs_not_ranked : ¬ ∃ ρ, Ranked ρ dlProgs := by
  rintro ⟨ρ, hρ⟩
  exact dl_deadlock.2.2 (deadlock_free ρ dlProgs hρ dlState dl_deadlock.1 dl_deadlock.2.1)

end ProgressExample

end Ebu.Conc
