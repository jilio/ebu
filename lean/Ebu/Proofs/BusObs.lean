import Ebu.Proofs.BusEff
/-!
Observability callbacks of the bus machine (C20): matched and properly nested pairs, fresh
span ids, truthful error flags, parents.  `Seg` says that a trace segment is balanced and uses the span ids of an
interval in order; `Eff.ext` gives it for what any call appends, by induction on `Eff`.
-/
namespace Ebu.Bus

namespace Obs
/-- all but the observability callbacks: what `obsStack` and `obsStarts` pass over -/
def notObs : Ev → Bool
  | .obs .. => false
  | _ => true

def isStartK : ObsKind → Bool
  | .ps | .hs | .rs => true
  | _ => false

theorem obsStack_append (l₁ l₂ : List Ev) (st : List Nat) :
    obsStack (l₁ ++ l₂) st = (obsStack l₁ st).bind (obsStack l₂) := by
  induction l₁ generalizing st with
  | nil => simp [obsStack]
  | cons e l ih =>
    cases e with
    | obs d k id p ty f =>
      cases k <;> simp only [List.cons_append, obsStack, ih]
      all_goals (cases st <;> simp only [Option.bind_none]; split <;> simp)
    | _ => simp [obsStack, ih]

theorem obsStack_notObs (e : Ev) (h : notObs e = true) (l : List Ev) (st : List Nat) :
    obsStack (e :: l) st = obsStack l st := by
  cases e <;> first | rfl | cases h

theorem obsStarts_append (l₁ l₂ : List Ev) : obsStarts (l₁ ++ l₂) = obsStarts l₁ ++ obsStarts l₂ := by
  simp [obsStarts, List.filterMap_append]

theorem obsStarts_notObs (e : Ev) (h : notObs e = true) : obsStarts [e] = [] := by
  cases e <;> first | rfl | cases h

theorem obsStack_start {k : ObsKind} (hk : isStartK k = true) (d a p ty : Nat) (f : Bool) (l : List Ev) (st : List Nat) :
    obsStack (.obs d k a p ty f :: l) st = obsStack l (a :: st) := by
  cases k <;> first | rfl | cases hk

theorem obsStack_complete {k : ObsKind} (hk : isStartK k = false) (d a p ty : Nat) (f : Bool) (l : List Ev)
    (st : List Nat) : obsStack (.obs d k a p ty f :: l) (a :: st) = obsStack l st := by
  cases k <;> first | (simp [obsStack]; done) | cases hk

theorem obsStarts_start {k : ObsKind} (hk : isStartK k = true) (d a p ty : Nat) (f : Bool) (l : List Ev) :
    obsStarts (.obs d k a p ty f :: l) = a :: obsStarts l := by
  cases k <;> first | rfl | cases hk

theorem obsStarts_complete {k : ObsKind} (hk : isStartK k = false) (d a p ty : Nat) (f : Bool) (l : List Ev) :
    obsStarts (.obs d k a p ty f :: l) = obsStarts l := by
  cases k <;> first | rfl | cases hk

/-- a balanced trace segment using span ids in `[a, b)`, increasing -/
structure Seg (cfg : Config) (Q : Ev → Prop) (a : Nat) (l : List Ev) (b : Nat) : Prop where
  bal : ∀ st, obsStack l st = some st
  le : a ≤ b
  sorted : (obsStarts l).Pairwise (· < ·)
  bnd : ∀ id ∈ obsStarts l, a ≤ id ∧ id < b
  all : ∀ e ∈ l, Q e
  noobs : cfg.obs = false → ∀ e ∈ l, notObs e = true

theorem Seg.nil {cfg Q a} : Seg cfg Q a [] a :=
  ⟨fun _ => rfl, Nat.le_refl _, by simp [obsStarts], by simp [obsStarts], by simp, by simp⟩

theorem Seg.append {cfg Q a b c l₁ l₂} (h₁ : Seg cfg Q a l₁ b) (h₂ : Seg cfg Q b l₂ c) :
    Seg cfg Q a (l₁ ++ l₂) c where
  bal st := by rw [obsStack_append, h₁.bal]; exact h₂.bal st
  le := Nat.le_trans h₁.le h₂.le
  sorted := by
    rw [obsStarts_append, List.pairwise_append]
    refine ⟨h₁.sorted, h₂.sorted, ?_⟩
    intro x hx y hy
    have := h₁.bnd x hx; have := h₂.bnd y hy; omega
  bnd := by
    intro id hid
    rw [obsStarts_append, List.mem_append] at hid
    have := h₁.le; have := h₂.le
    rcases hid with h | h
    · have := h₁.bnd id h; omega
    · have := h₂.bnd id h; omega
  all := all_append h₁.all h₂.all
  noobs := fun ho => all_append (h₁.noobs ho) (h₂.noobs ho)

theorem Seg.mono {cfg Q Q' a b l} (h : Seg cfg Q a l b) (hq : ∀ e, Q e → Q' e) : Seg cfg Q' a l b :=
  ⟨h.bal, h.le, h.sorted, h.bnd, fun e he => hq e (h.all e he), h.noobs⟩

theorem Seg.single {cfg Q a} (e : Ev) (hn : notObs e = true) (hq : Q e) : Seg cfg Q a [e] a where
  bal st := by rw [obsStack_notObs e hn]; rfl
  le := Nat.le_refl _
  sorted := by simp [obsStarts_notObs e hn]
  bnd := by simp [obsStarts_notObs e hn]
  all := all_single _ hq
  noobs := fun _ => all_single _ hn

theorem Seg.bracket {cfg : Config} {Q a b l} (ho : cfg.obs = true) (h : Seg cfg Q (a + 1) l b)
    (d d' : Nat) (k k' : ObsKind) (p p' ty ty' : Nat) (f f' : Bool)
    (hk : isStartK k = true) (hk' : isStartK k' = false)
    (hq : Q (.obs d k a p ty f)) (hq' : Q (.obs d' k' a p' ty' f')) :
    Seg cfg Q a ([Ev.obs d k a p ty f] ++ l ++ [Ev.obs d' k' a p' ty' f']) b := by
  have hst : obsStarts ([Ev.obs d k a p ty f] ++ l ++ [Ev.obs d' k' a p' ty' f']) = a :: obsStarts l := by
    rw [List.singleton_append, List.cons_append, obsStarts_start hk, obsStarts_append, obsStarts_complete hk']
    exact congrArg _ (List.append_nil _)
  refine ⟨fun st => ?_, Nat.le_trans (Nat.le_succ a) h.le, ?_, ?_,
    all_append (all_append (all_single _ hq) h.all) (all_single _ hq'), fun h' => by rw [ho] at h'; cases h'⟩
  · rw [List.singleton_append, List.cons_append, obsStack_start hk, obsStack_append, h.bal,
      Option.bind_some, obsStack_complete hk']
    rfl
  · rw [hst, List.pairwise_cons]
    exact ⟨fun x hx => (h.bnd x hx).1, h.sorted⟩
  · rw [hst]
    intro id hid
    have := h.le
    rcases List.mem_cons.1 hid with rfl | hid
    · omega
    · have := h.bnd id hid; omega

theorem Seg.wrap {cfg : Config} {Q a b l} (h : Seg cfg Q (a + if cfg.obs then 1 else 0) l b)
    (d d' : Nat) (k k' : ObsKind) (p p' ty ty' : Nat) (f f' : Bool)
    (hk : isStartK k = true) (hk' : isStartK k' = false)
    (hq : Q (.obs d k a p ty f)) (hq' : Q (.obs d' k' a p' ty' f')) :
    Seg cfg Q a ((if cfg.obs then [Ev.obs d k a p ty f] else []) ++ l ++
      (if cfg.obs then [Ev.obs d' k' a p' ty' f'] else [])) b := by
  cases ho : cfg.obs
  · simpa [ho] using h
  · simp only [ho, if_true] at h ⊢
    exact Seg.bracket ho h d d' k k' p p' ty ty' f f' hk hk' hq hq'

theorem Seg.optSingle {cfg Q a} (b : Bool) (e : Ev) (hn : notObs e = true) (hq : Q e) :
    Seg cfg Q a (if b then [e] else []) a := by
  cases b
  · exact Seg.nil
  · exact Seg.single e hn hq

def Ext (cfg : Config) (Q : Ev → Prop) (c c' : Core) : Prop :=
  ∃ l, c'.trace = c.trace ++ l ∧ Seg cfg Q c.nextObs l c'.nextObs

theorem Ext.of_eq {cfg Q} {c c' : Core} (ht : c'.trace = c.trace) (hn : c'.nextObs = c.nextObs) :
    Ext cfg Q c c' :=
  ⟨[], by simp [ht], by rw [hn]; exact Seg.nil⟩

theorem Ext.refl {cfg Q} {c : Core} : Ext cfg Q c c := Ext.of_eq rfl rfl

theorem Ext.trans {cfg Q} {c₁ c₂ c₃ : Core} (h₁ : Ext cfg Q c₁ c₂) (h₂ : Ext cfg Q c₂ c₃) :
    Ext cfg Q c₁ c₃ := by
  obtain ⟨l₁, e₁, s₁⟩ := h₁
  obtain ⟨l₂, e₂, s₂⟩ := h₂
  exact ⟨l₁ ++ l₂, by rw [e₂, e₁, List.append_assoc], s₁.append s₂⟩

theorem Ext.mono {cfg Q Q'} {c c' : Core} (h : Ext cfg Q c c') (hq : ∀ e, Q e → Q' e) :
    Ext cfg Q' c c' := by
  obtain ⟨l, e, s⟩ := h
  exact ⟨l, e, s.mono hq⟩

theorem Ext.emit {cfg Q} (c : Core) (e : Ev) (hn : notObs e = true) (hq : Q e) :
    Ext cfg Q c (c.emit e) :=
  ⟨[e], Core.trace_emit c e, Seg.single e hn hq⟩

theorem Ext.span {R : Type} {cfg : Config} {Q : Ev → Prop} {s s' : St R} {d : Nat} {k k' : ObsKind} {p ty : Nat}
    {f f' : Bool} (hk : isStartK k = true) (hk' : isStartK k' = false)
    (hq : Q (.obs d k s.c.nextObs p ty f)) (hq' : Q (.obs d k' s.c.nextObs 0 ty f'))
    (h : Ext cfg Q (openSpan cfg d k p ty f s).c s'.c) :
    Ext cfg Q s.c (Ebu.Bus.emitIf cfg.obs s'.c (.obs d k' s.c.nextObs 0 ty f')) := by
  obtain ⟨l, hl, hs⟩ := h
  rw [openSpan_nextObs] at hs
  refine ⟨_, ?_, by rw [BF.emitIf_nextObs]; exact Seg.wrap hs d d k k' p 0 ty ty f f' hk hk' hq hq'⟩
  rw [BF.emitIf_trace, hl, openSpan_trace]
  simp only [List.append_assoc]

/-- spans opened at depth `d` (by a synchronous handler start or a persist) are children of `pid` -/
def ChildOK (d pid : Nat) : Ev → Prop
  | .obs d' .hs _ p _ async => d' = d → async = false → p = pid
  | .obs d' .rs _ p _ _ => d' = d → p = pid
  | _ => True

/-- what a call at depth `d` may append when the spans it opens directly hang under `par` -/
def QPar (d : Nat) (par : Option Nat) (e : Ev) : Prop := d ≤ e.depth ∧ ∀ p ∈ par, ChildOK d p e

theorem QPar.of_lt {d : Nat} {par : Option Nat} {e : Ev} (h : d < e.depth) : QPar d par e := by
  refine ⟨Nat.le_of_lt h, fun p _ => ?_⟩
  cases e with
  | obs d' k id p' ty f =>
    cases k <;> simp only [ChildOK, Ev.depth] at h ⊢ <;> omega
  | _ => trivial

theorem QPar.of_notObs {d : Nat} {par : Option Nat} {e : Ev} (hn : notObs e = true) (h : d ≤ e.depth) :
    QPar d par e := by
  refine ⟨h, fun p _ => ?_⟩
  cases e <;> first | trivial | cases hn

theorem simple_notObs {e : Ev} (h : simple e = true) : notObs e = true := by
  cases e <;> first | rfl | cases h

theorem persist_ext (cfg : Config) (d ty v : Nat) (bad : Bool) (op : Nat) (c : Core) {par : Option Nat}
    (hp : ∀ p ∈ par, op = p) : Ext cfg (QPar d par) c (persist cfg d ty v bad op c) := by
  refine ⟨_, persist_trace .., ?_⟩
  rw [persist_eq]
  unfold persistEvs
  have hq : ∀ e : Ev, notObs e = true → e.depth = d → QPar d par e :=
    fun e hn hd => .of_notObs hn (Nat.le_of_eq hd.symm)
  cases cfg.store with
  | none => exact Seg.nil
  | some sid =>
    cases bad with
    | true => exact Seg.optSingle _ _ rfl (hq _ rfl rfl)
    | false =>
      exact Seg.append (Seg.wrap (Seg.single _ rfl (hq _ rfl rfl)) _ _ _ _ _ _ _ _ _ _ rfl rfl
        ⟨Nat.le_refl _, fun p h _ => hp p h⟩ ⟨Nat.le_refl _, fun _ _ => trivial⟩) (Seg.optSingle _ _ rfl (hq _ rfl rfl))

section
variable {R : Type} {I : RegImpl R} {cfg : Config}

theorem _root_.Ebu.Bus.Eff.ext {d : Nat} {par : Option Nat} {s s' : St R} {cl : List Reg} (h : Eff I cfg d par s s' cl) :
    Ext cfg (QPar d par) s.c s'.c := by
  induction h with
  | refl => exact .refl
  | trans _ _ ih₁ ih₂ => exact ih₁.trans ih₂
  | emit e hd he => exact .emit _ e (simple_notObs he) (.of_notObs (simple_notObs he) (Nat.le_of_eq hd.symm))
  | silent c' hs => exact .of_eq hs.trace hs.nextObs
  | subscribe => exact .of_eq rfl rfl
  | shrink => exact .refl
  | persist ty v bad op hp => exact persist_ext cfg _ ty v bad op _ hp
  | @call d d' par s s' r ty v root op async hd hp _ ih =>
    have hlt := Nat.lt_succ_of_le hd
    refine Ext.span (k := .hs) (k' := .hc) rfl rfl ⟨hd, fun p hp' hdd ha => hp hdd ha p hp'⟩ ⟨hd, fun _ _ => trivial⟩ ?_
    -- `entered` taken as an emit and a change of `calls`: from `entered_trace` alone the span counters of
    -- `entered (openSpan ..)` and `openSpan ..` have to be found equal by unfolding both, which is slow
    refine .trans ((Ext.emit _ _ rfl (.of_lt hlt)).trans (.of_eq (c' := (entered r ty v root d' async _).c) rfl rfl))
      (.trans (ih.mono fun e he => .of_lt (Nat.lt_of_lt_of_le hlt he.1)) ⟨_, chMid_trace .., ?_⟩)
    rw [chMid_eq]
    refine .append (l₁ := [_]) (.single _ rfl (.of_lt hlt)) ?_
    unfold panichEvs
    split
    · exact .optSingle _ _ rfl ⟨hd, fun _ _ => trivial⟩
    · exact .nil
  | @publish d s s' ty p _ ih =>
    exact Ext.span (k := .ps) (k' := .pc) rfl rfl ⟨Nat.le_refl _, nofun⟩ ⟨Nat.le_refl _, nofun⟩
      (ih.mono fun e he => ⟨he.1, nofun⟩)
  | pop => exact .of_eq rfl rfl
  | claim => exact .of_eq rfl rfl
  | retire _ _ _ ih => exact ih

theorem run_seg (I : RegImpl R) (cfg : Config) (fuel : Nat) (faults : List Bool) (prog : List Action) :
    Seg cfg (QPar 0 none) 1 (run I cfg fuel faults prog).c.trace (run I cfg fuel faults prog).c.nextObs := by
  obtain ⟨l, hl, hs⟩ := (run_eff I cfg fuel faults prog).ext
  rw [show (initSt I faults).c.trace = [] from rfl, List.nil_append] at hl
  subst hl
  exact hs

end
end Obs

open Obs

theorem obs_balanced_run {R : Type} (I : RegImpl R) (cfg : Config) (fuel : Nat) (faults : List Bool)
    (prog : List Action) :
    obsStack (run I cfg fuel faults prog).c.trace [] = some [] :=
  (run_seg I cfg fuel faults prog).bal []

/-- span ids are never reused: the ids started in a run are pairwise distinct -/
theorem obs_ids_fresh {R : Type} (I : RegImpl R) (cfg : Config) (fuel : Nat) (faults : List Bool)
    (prog : List Action) :
    (obsStarts (run I cfg fuel faults prog).c.trace).Nodup :=
  (run_seg I cfg fuel faults prog).sorted.imp fun h => Nat.ne_of_lt h

/-- one handler invocation: OnHandlerStart first (child of the context it was given), then the
handler, OnHandlerComplete last with the same span and `err ≠ nil` exactly when it panicked -/
theorem callHandler_obs {R : Type} (I : RegImpl R) (cfg : Config) (n : Nat) (r : Reg)
    (ty v root obsParent d : Nat) (async : Bool) (s : St R) (hobs : cfg.obs = true) :
    let s' := callHandler cfg (exec I cfg n) r ty v root obsParent d async s
    ∃ mid, newTrace s s' =
      [Ev.obs d .hs s.c.nextObs obsParent ty async] ++ mid ++
      [Ev.obs d .hc s.c.nextObs 0 ty (bodyResult cfg (exec I cfg n) r ty v root obsParent d async s).c.panicking.isSome] := by
  intro s'
  obtain ⟨l, hl, -⟩ := (bodyResult_eff (exec_eff I cfg n) r ty v root obsParent d async s).ext
  rw [newTrace_eq (s' := s') (callHandler_trace cfg _ r ty v root obsParent d async s hl)]
  simp only [invEvs, hobs, if_true]
  exact ⟨_, rfl⟩

/-- one persist: OnPersistStart/Complete exactly around an append attempt (none for an
unencodable event), child of the publish span, `err ≠ nil` exactly when the append failed -/
theorem persist_obs (cfg : Config) (d ty v : Nat) (bad : Bool) (obsParent : Nat) (c : Core) (sid : Nat)
    (hobs : cfg.obs = true) (hstore : cfg.store = some sid) :
    let c' := persist cfg d ty v bad obsParent c
    (bad = true → ∀ e ∈ c'.trace.drop c.trace.length, (match e with | .obs .. => false | _ => true) = true) ∧
    (bad = false → ∃ ok off rest, c'.trace.drop c.trace.length =
        [Ev.obs d .rs c.nextObs obsParent ty false, Ev.append d sid ty v ok off,
         Ev.obs d .rc c.nextObs 0 ty (!ok)] ++ rest ∧ ∀ e ∈ rest, (match e with | .obs .. => false | _ => true) = true) := by
  intro c'
  have ht : c'.trace.drop c.trace.length = persistEvs cfg d ty v bad obsParent c := by
    rw [show c'.trace = _ from persist_trace ..]; simp
  rw [ht, persistEvs, hstore]
  refine ⟨?_, ?_⟩
  · rintro rfl
    exact all_ite _ _ rfl
  · rintro rfl
    refine ⟨!c.appendFaults.headD false, if c.appendFaults.headD false then 0 else c.log.length + 1,
      if (c.appendFaults.headD false && cfg.perrH) then [Ev.perr d ty v false] else [], ?_, all_ite _ _ rfl⟩
    simp [appendEvs, hobs]

/-- one publish: OnPublishStart is the first event and OnPublishComplete the last one, with the
same span; the spans opened in between at this depth are children of the publish span -/
theorem publish_obs {R : Type} (I : RegImpl R) (cfg : Config) (n : Nat) (fr : Frame)
    (ty v : Nat) (bad : Bool) (sel : CtxSel) (s : St R) (hobs : cfg.obs = true) :
    let s' := publish I cfg (exec I cfg n) fr ty v bad sel s
    ∃ parent mid, newTrace s s' =
      [Ev.obs fr.depth .ps s.c.nextObs parent ty false] ++ mid ++ [Ev.obs fr.depth .pc s.c.nextObs 0 ty false] ∧
      (∀ e ∈ mid, match e with
        | .obs d' .hs _ p _ async => d' = fr.depth → async = false → p = s.c.nextObs
        | .obs d' .rs _ p _ _ => d' = fr.depth → p = s.c.nextObs
        | _ => True) := by
  intro s'
  obtain ⟨l, hl, hs⟩ := (pubSpan_eff (exec_eff I cfg n) fr ty v bad sel s).ext
  obtain ⟨-, hc⟩ := pubCtx_silent fr sel s
  have hn := hc.nextObs
  refine ⟨(pubCtx fr sel s).2.1, l, newTrace_eq ?_, fun e he => ?_⟩
  · show (publish I cfg (exec I cfg n) fr ty v bad sel s).c.trace = _
    rw [publish_eq]
    show (emitIf _ _ _).trace = _
    rw [BF.emitIf_trace, hl, openSpan_trace, hc.trace, hn]
    simp [hobs]
  · have := (hs.all e he).2 _ rfl
    simp only [pubObs, hobs, if_true, hn] at this
    cases e with
    | obs d' k id p ty' f => cases k <;> first | trivial | exact this
    | _ => trivial

end Ebu.Bus
