import Ebu.Proofs.BusEff
import Ebu.Proofs.BusSim
/-!
Persistence inside the bus machine (C09, C13): option order, one record per publish before
any handler, offsets, containment of failures.  Offsets: `T` holds of every `Eff` (`Eff.offsets`).  Containment: two
runs that agree up to what a store fault may change (`RS`, equality of `norm`) stay so: `RS` is an instance of the
simulation of `BusSim` (`RS.ok`).
-/
namespace Ebu.Bus

namespace Persist

/-- the step of the fold that `lastStore` is (`lastStore_eq`) -/
def lsF (acc : Option Nat) (o : Opt) : Option Nat := match o with | .store sid => some sid | _ => acc

theorem lastStore_eq (opts : List Opt) : lastStore opts = opts.foldl lsF none := rfl

theorem lsF_foldl (opts : List Opt) (acc : Option Nat) :
    opts.foldl lsF acc = (match opts.foldl lsF none with | some sid => some sid | none => acc) := by
  induction opts generalizing acc with
  | nil => simp
  | cons o opts ih =>
    simp only [List.foldl_cons]
    rw [ih, ih (lsF none o)]
    cases List.foldl lsF none opts <;> cases o <;> rfl

theorem lastStore_cons (o : Opt) (opts : List Opt) :
    lastStore (o :: opts) = (match lastStore opts with
      | some sid => some sid
      | none => lsF none o) := by
  simp only [lastStore_eq, List.foldl_cons]
  rw [lsF_foldl]

theorem lastStore_one (opts : List Opt) (sid : Nat) (hone : ∀ o ∈ opts, ∀ k, o = .store k → k = sid) :
    lastStore opts = if Opt.store sid ∈ opts then some sid else none := by
  induction opts with
  | nil => simp [lastStore]
  | cons o opts ih =>
    rw [lastStore_cons, ih (fun o ho => hone o (List.mem_cons_of_mem _ ho))]
    by_cases hm : Opt.store sid ∈ opts
    · simp [hm]
    · cases o with
      | store k =>
        have := hone (.store k) (List.mem_cons_self) k rfl
        subst this
        simp [hm, lsF]
      | _ => simp [hm, lsF]

end Persist
open Persist

/-- the configuration produced by an option list does not depend on where `WithStore` stands:
the store is the last `WithStore` given (or the base one), every flag is "was it given" -/
theorem applyOptions_spec (base : Config) (opts : List Opt) :
    let c := applyOptions base opts
    c.store = (match lastStore opts with | some sid => some sid | none => base.store) ∧
    c.hookBL = (base.hookBL || opts.contains .hookBL) ∧ c.hookBC = (base.hookBC || opts.contains .hookBC) ∧
    c.hookAL = (base.hookAL || opts.contains .hookAL) ∧ c.hookAC = (base.hookAC || opts.contains .hookAC) ∧
    c.panicH = (base.panicH || opts.contains .panicH) ∧ c.perrH = (base.perrH || opts.contains .perrH) ∧
    c.obs = (base.obs || opts.contains .obs) ∧ c.maxDepth = base.maxDepth ∧ c.maxCalls = base.maxCalls ∧
    c.bodies = base.bodies := by
  induction opts generalizing base with
  | nil => simp [applyOptions, lastStore]
  | cons o opts ih =>
    simp only [applyOptions, List.foldl_cons, lastStore_cons] at ih ⊢
    simp only [ih]
    refine ⟨by cases o <;> cases lastStore opts <;> rfl, ?_⟩
    cases o <;> simp [applyOpt]

/-- every permutation of an option list that names one store gives the same bus -/
theorem applyOptions_perm (base : Config) (opts opts' : List Opt) (sid : Nat)
    (hperm : opts.Perm opts') (hone : ∀ o ∈ opts, ∀ k, o = .store k → k = sid) :
    applyOptions base opts = applyOptions base opts' := by
  have h1 := applyOptions_spec base opts
  have h2 := applyOptions_spec base opts'
  have hone' : ∀ o ∈ opts', ∀ k, o = .store k → k = sid := fun o ho => hone o (hperm.mem_iff.mpr ho)
  rw [lastStore_one opts sid hone] at h1
  rw [lastStore_one opts' sid hone'] at h2
  have hc : ∀ o : Opt, opts'.contains o = opts.contains o := by
    intro o
    rw [Bool.eq_iff_iff]
    simp [hperm.mem_iff]
  simp only [hc, ← hperm.mem_iff] at h2
  generalize applyOptions base opts = c1 at h1
  generalize applyOptions base opts' = c2 at h2
  cases c1; cases c2
  simp only [Config.mk.injEq]
  simp only at h1 h2
  obtain ⟨a1, a2, a3, a4, a5, a6, a7, a8, a9, a10, a11⟩ := h1
  obtain ⟨b1, b2, b3, b4, b5, b6, b7, b8, b9, b10, b11⟩ := h2
  subst a1 a2 a3 a4 a5 a6 a7 a8 a9 a10 a11 b1 b2 b3 b4 b5 b6 b7 b8 b9 b10 b11
  simp

theorem persist_spec (cfg : Config) (d ty v : Nat) (bad : Bool) (obsParent : Nat) (c : Core) :
    let c' := persist cfg d ty v bad obsParent c
    -- no store: nothing at all
    (cfg.store = none → c' = c) ∧
    -- unencodable event: no append attempt, the error handler (if set) is told once
    (∀ sid, cfg.store = some sid → bad = true →
        c'.log = c.log ∧ c'.lastOffset = c.lastOffset ∧ c'.appendFaults = c.appendFaults ∧
        c'.trace = c.trace ++ (if cfg.perrH then [Ev.perr d ty v true] else [])) ∧
    -- the store accepts: exactly one record with the event's type and data, next offset
    (∀ sid, cfg.store = some sid → bad = false → c.appendFaults.headD false = false →
        c'.log = c.log ++ [(ty, v)] ∧ c'.lastOffset = c.log.length + 1 ∧
        (c'.trace.drop c.trace.length).filter (fun e => isAppend e || (match e with | .perr .. => true | _ => false)) =
          [Ev.append d sid ty v true (c.log.length + 1)]) ∧
    -- the store rejects: no record, no retry, one report
    (∀ sid, cfg.store = some sid → bad = false → c.appendFaults.headD false = true →
        c'.log = c.log ∧ c'.lastOffset = c.lastOffset ∧
        (c'.trace.drop c.trace.length).filter (fun e => isAppend e || (match e with | .perr .. => true | _ => false)) =
          [Ev.append d sid ty v false 0] ++ (if cfg.perrH then [Ev.perr d ty v false] else [])) := by
  intro c'
  have hd : c'.trace.drop c.trace.length = persistEvs cfg d ty v bad obsParent c := by
    rw [show c'.trace = _ from persist_trace ..]; simp
  rw [hd]
  refine ⟨fun h => by simp [c', persist, h], fun sid h hb => ?_, fun sid h hb hf => ?_, fun sid h hb hf => ?_⟩ <;>
    subst hb <;> rw [show c' = _ from persist_eq ..]
  · exact ⟨by rw [h]; rfl, by rw [h]; rfl, by rw [h]; rfl, by rw [← persist_eq, persist_trace, persistEvs, h]; rfl⟩
  · refine ⟨by rw [h, hf]; rfl, by rw [h, hf]; rfl, ?_⟩
    simp only [persistEvs, appendEvs, h, hf]
    cases cfg.obs <;> cases cfg.perrH <;> rfl
  · refine ⟨by rw [h, hf]; rfl, by rw [h, hf]; rfl, ?_⟩
    simp only [persistEvs, appendEvs, h, hf]
    cases cfg.obs <;> cases cfg.perrH <;> rfl

namespace Persist

theorem emitIf_trace (b : Bool) (c : Core) (e : Ev) :
    (emitIf b c e).trace = c.trace ++ (if b then [e] else []) :=
  BF.emitIf_trace b c e

def OffInv (c : Core) : Prop :=
  okOffsets c.trace = (List.range c.log.length).map (· + 1) ∧ c.lastOffset = c.log.length

/-- a transition of the core from `c` to `c'`: trace and log only grow, and the offsets invariant is kept -/
structure T (c c' : Core) : Prop where
  tr : ∃ l, c'.trace = c.trace ++ l
  lg : ∃ l, c'.log = c.log ++ l
  inv : OffInv c → OffInv c'

theorem T.refl (c : Core) : T c c := ⟨⟨[], by simp⟩, ⟨[], by simp⟩, id⟩

theorem T.trans {a b c : Core} (h1 : T a b) (h2 : T b c) : T a c := by
  obtain ⟨⟨l1, e1⟩, ⟨m1, f1⟩, i1⟩ := h1
  obtain ⟨⟨l2, e2⟩, ⟨m2, f2⟩, i2⟩ := h2
  exact ⟨⟨l1 ++ l2, by rw [e2, e1, List.append_assoc]⟩, ⟨m1 ++ m2, by rw [f2, f1, List.append_assoc]⟩,
    fun h => i2 (i1 h)⟩

theorem okOffsets_append (l1 l2 : List Ev) : okOffsets (l1 ++ l2) = okOffsets l1 ++ okOffsets l2 := by
  simp [okOffsets, List.filterMap_append]

theorem okOffsets_single (e : Ev) (h : isAppend e = false) : okOffsets [e] = [] := by
  cases e <;> first | rfl | cases h

/-- events without a successful append among them, log and offset as they were -/
theorem T.quiet {c c' : Core} {l : List Ev} (ht : c'.trace = c.trace ++ l) (hl : okOffsets l = []) (h2 : c'.log = c.log)
    (h3 : c'.lastOffset = c.lastOffset) : T c c' := by
  refine ⟨⟨l, ht⟩, ⟨[], by simp [h2]⟩, ?_⟩
  simp only [OffInv, ht, okOffsets_append, hl, List.append_nil, h2, h3]
  exact id

theorem T.same {c c' : Core} (h1 : c'.rtrace = c.rtrace) (h2 : c'.log = c.log)
    (h3 : c'.lastOffset = c.lastOffset) : T c c' :=
  .quiet (l := []) (by simp [Core.trace, h1]) rfl h2 h3

theorem T.emit (c : Core) (e : Ev) (h : okOffsets [e] = []) : T c (c.emit e) := .quiet (Core.trace_emit c e) h rfl rfl

theorem T.emitIf (b : Bool) (c : Core) (e : Ev) (h : okOffsets [e] = []) : T c (emitIf b c e) := by
  cases b
  · exact T.refl c
  · exact T.emit c e h

theorem persistEvs_okOffsets (cfg : Config) (d ty v : Nat) (bad : Bool) (op : Nat) (c : Core) :
    okOffsets (persistEvs cfg d ty v bad op c) =
      if cfg.store.isSome && !bad && !c.appendFaults.headD false then [c.log.length + 1] else [] := by
  unfold persistEvs appendEvs
  generalize c.appendFaults.headD false = fails
  cases cfg.store
  · rfl
  cases bad <;> cases cfg.obs <;> cases cfg.perrH <;> cases fails <;> rfl

theorem T.persist (cfg : Config) (d ty v : Nat) (bad : Bool) (op : Nat) (c : Core) :
    T c (persist cfg d ty v bad op c) := by
  refine ⟨⟨_, persist_trace ..⟩, ?_, fun ⟨h1, h2⟩ => ?_⟩
  · rw [persist_eq]
    dsimp only
    split
    · exact ⟨_, rfl⟩
    · exact ⟨[], (List.append_nil _).symm⟩
  · rw [OffInv, persist_trace, okOffsets_append, persistEvs_okOffsets, h1, persist_eq]
    dsimp only
    split
    · -- the one real step, a successful append: the offsets gain `log.length + 1`
      simp [List.range_succ]
    · simp [h2]

section
variable {R : Type} {I : RegImpl R} {cfg : Config}

theorem simple_okOffsets {e : Ev} (h : simple e = true) : okOffsets [e] = [] := by
  cases e <;> first | rfl | cases h

theorem T.openSpan (d : Nat) (k : ObsKind) (p ty : Nat) (f : Bool) (s : St R) :
    T s.c (openSpan cfg d k p ty f s).c := by
  rw [openSpan_eq]; exact (T.emitIf _ _ _ rfl).trans (.same rfl rfl rfl)

theorem T.entered (r : Reg) (ty v root d : Nat) (async : Bool) (s : St R) :
    T s.c (entered r ty v root d async s).c := (T.emit _ _ rfl).trans (.same rfl rfl rfl)

theorem T.chMid (r : Reg) (ty v d : Nat) (s : St R) : T s.c (chMid cfg r ty v d s).c :=
  .quiet (chMid_trace ..) (by unfold panichEvs; cases s.c.panicking <;> cases cfg.panicH <;> rfl)
    (by rw [chMid_eq]) (by rw [chMid_eq])

theorem _root_.Ebu.Bus.Eff.offsets {d : Nat} {par : Option Nat} {s s' : St R} {cl : List Reg} (h : Eff I cfg d par s s' cl) :
    T s.c s'.c := by
  induction h with
  | refl => exact .refl _
  | trans _ _ ih₁ ih₂ => exact ih₁.trans ih₂
  | emit e _ he => exact .emit _ e (simple_okOffsets he)
  | silent c' hs => exact .same hs.rtrace hs.log hs.lastOffset
  | subscribe => exact .same rfl rfl rfl
  | shrink => exact .refl _
  | persist ty v bad op => exact .persist cfg _ ty v bad op _
  | call _ _ _ _ _ _ _ _ _ ih =>
    exact .trans (.trans ((T.openSpan ..).trans (T.entered ..)) ih) ((T.chMid ..).trans (T.emitIf _ _ _ rfl))
  | publish ty p _ ih => exact .trans ((T.openSpan ..).trans ih) (T.emitIf _ _ _ rfl)
  | pop => exact .same rfl rfl rfl
  | claim => exact .same rfl rfl rfl
  | retire _ _ _ ih => exact ih

end
end Persist

/-- C09/C13: in every run the log has exactly one record per successful append, and the
offsets handed out are 1, 2, 3, … in order (distinct, strictly increasing), also across
failed appends -/
theorem offsets_increasing {R : Type} (I : RegImpl R) (cfg : Config) (fuel : Nat) (faults : List Bool)
    (prog : List Action) :
    let s := run I cfg fuel faults prog
    okOffsets s.c.trace = (List.range s.c.log.length).map (· + 1) ∧ s.c.lastOffset = s.c.log.length :=
  (run_eff I cfg fuel faults prog).offsets.inv (by simp [OffInv, initSt, Core.trace, okOffsets])

/-- C09: in the events of one publish, the append of its record (when there is a store and
the event is encodable) comes before every handler entry of that publish, and the log the
handlers see already contains it -/
theorem publish_persists_first {R : Type} (I : RegImpl R) (cfg : Config) (n : Nat) (fr : Frame)
    (ty v : Nat) (sel : CtxSel) (s : St R) (sid : Nat) (hstore : cfg.store = some sid)
    (hok : s.c.appendFaults.headD false = false) :
    let s' := publish I cfg (exec I cfg n) fr ty v false sel s
    ∃ pre post, newTrace s s' = pre ++ [Ev.append fr.depth sid ty v true (s.c.log.length + 1)] ++ post ∧
      (∀ e ∈ pre, isEnter e = false ∧ isAppend e = false) ∧
      (∃ l, s'.c.log = s.c.log ++ (ty, v) :: l) := by
  intro s'
  obtain ⟨-, hc⟩ := pubCtx_silent fr sel s
  -- the core when `persist` is called
  let c1 := emitIf cfg.hookBC (emitIf cfg.hookBL (openSpan cfg fr.depth .ps (pubCtx fr sel s).2.1 ty false
    (pubCtx fr sel s).2.2).c (.hook fr.depth .bl ty v)) (.hook fr.depth .bc ty v)
  have hl1 : c1.log = s.c.log := by simp only [c1, openSpan_eq, BF.emitIf_log]; exact hc.log
  have hf1 : c1.appendFaults = s.c.appendFaults := by
    simp only [c1, openSpan_eq, BF.emitIf_appendFaults]; exact hc.appendFaults
  obtain ⟨pre1, ht1, hp1⟩ : ∃ pre1, c1.trace = s.c.trace ++ pre1 ∧
      ∀ e ∈ pre1, isEnter e = false ∧ isAppend e = false := by
    exact ⟨_, by
      simp only [c1, BF.emitIf_trace, openSpan_trace, List.append_assoc]
      rw [hc.trace],
      all_append (all_ite _ _ ⟨rfl, rfl⟩) (all_append (all_ite _ _ ⟨rfl, rfl⟩) (all_ite _ _ ⟨rfl, rfl⟩))⟩
  have hT := (pubAfter_eff fr.depth ty v (pubLoop_eff (exec_eff I cfg n) fr ty v false sel s).1
    (pubLoop_eff (exec_eff I cfg n) fr ty v false sel s).2).offsets.trans
    (T.emitIf cfg.obs _ (.obs fr.depth .pc (pubCtx fr sel s).2.2.c.nextObs 0 ty false) rfl)
  obtain ⟨⟨l, e1⟩, ⟨m, e2⟩, -⟩ : T (persist cfg fr.depth ty v false (pubObs cfg fr sel s) c1) s'.c := hT
  rw [persist_trace, ht1] at e1
  simp only [persistEvs, appendEvs, hstore, hf1, hl1, hok] at e1
  rw [persist_eq] at e2
  simp only [hstore, hf1, hl1, hok] at e2
  refine ⟨pre1 ++ (if cfg.obs then [Ev.obs fr.depth .rs c1.nextObs (pubObs cfg fr sel s) ty false] else []),
    (if cfg.obs then [Ev.obs fr.depth .rc c1.nextObs 0 ty false] else []) ++ l,
    newTrace_eq (e1.trans ?_), all_append hp1 (all_ite _ _ ⟨rfl, rfl⟩), m, e2.trans ?_⟩ <;> simp

namespace Persist

/-- related states: the same registry, and cores that agree up to what a store fault may change -/
def RS {R : Type} (s1 s2 : St R) : Prop := s1.reg = s2.reg ∧ norm s1.c = norm s2.c

theorem RS.refl {R : Type} (s : St R) : RS s s := ⟨rfl, rfl⟩

section
variable {R : Type} {s1 s2 : St R}

theorem RS.executed (hs : RS s1 s2) : s1.c.executed = s2.c.executed := (congrArg Core.executed hs.2 :)

end

theorem RS.ok {R : Type} (I : RegImpl R) : Sim.OK I I Eq (norm · = norm ·) where
  get h _ := h ▸ rfl
  set h _ _ := h ▸ rfl
  clearAll h := h ▸ rfl
  norm h := h
  map hf := hf _ _

end Persist

/-- C13: which handlers run, in which order, with which events and results of registry
queries does not depend on whether appends fail: two runs that differ only in the fault
script have the same trace once the persistence events are removed -/
theorem delivery_independent_of_faults {R : Type} (I : RegImpl R) (cfg : Config) (fuel : Nat)
    (f1 f2 : List Bool) (prog : List Action) :
    (run I cfg fuel f1 prog).c.trace.filter (fun e => !isPersistEv e) =
    (run I cfg fuel f2 prog).c.trace.filter (fun e => !isPersistEv e) := by
  have h := run_sim (RS.ok I) (cfg := cfg) fuel f1 f2 prog ⟨rfl, rfl⟩
  have ht := congrArg Core.rtrace h.2
  simp only [Core.trace, List.filter_reverse]
  exact congrArg List.reverse ht

end Ebu.Bus
