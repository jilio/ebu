import Ebu.Model.TypeName
namespace Ebu.TypeName

/-- the typed routes ask the zero value: they agree with `EventType` exactly when there is no namer to ask or it
answers the same on every value -/
theorem typeNameOf_eq_eventType_iff (s : Shape) :
    typeNameOf s = eventType s ↔ (inMethodSet s = false ∨ s.constName = true) := by
  unfold typeNameOf eventType Shape.constName
  cases inMethodSet s
  · simp
  · simp only [if_true, beq_iff_eq, Bool.true_eq_false, false_or]; exact eq_comm

end Ebu.TypeName
