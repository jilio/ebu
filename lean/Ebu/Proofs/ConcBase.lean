import Ebu.Model.Conc
/-!
The interleaving machine as the proofs see it.  The dispatch loop is described by where it stops (`Shape`) and what it
says (`Ran`), one step of a thread by the relation `StepR` and by the events it produces (`step_says`); on top of these,
induction over the reachable states with the step given as `StepR` (`reach_ind`), and the two forms in which almost
every invariant is proved by it: a property of each thread (`reach_threads`) and a relation between the shared state
and a sum over the threads (`reach_wsum`).

The namespace `Inv`, here and in the other `Conc…` files, holds everything the proofs share – this machinery, the
invariants, their step lemmas –, not invariants only; the property theorems stand outside it, in `Ebu.Conc`.
-/
namespace Ebu.Conc

namespace Inv

/-- every way the dispatch loop of one activation can arrive at its next yield point.
`PF`, `PC`, `PG` say which registration (and which remainder of the snapshot) the loop may stop at:
in a filter, at a once claim, and at a dispatch (`spawn`/`lock`/`enter`) respectively -/
inductive Shape (sh : Shared) (th : Thread) (f : Frame) (fs : List Frame)
    (PF PC PG : Reg → List Reg → Prop) : Out → Prop
  | ret (obs : List Obs) (hc : f.claimed = []) :
      Shape sh th f fs PF PC PG ⟨sh, { th with frames := fs, pc := .op }, [], obs⟩
  | retire (obs : List Obs) (hc : f.claimed ≠ []) :
      Shape sh th f fs PF PC PG ⟨sh, { th with frames := { f with rest := [] } :: fs, pc := .retire }, [], obs⟩
  | filter (obs : List Obs) (r : Reg) (rest' : List Reg) (hp : PF r rest') (hf : r.filt.isSome = true) :
      Shape sh th f fs PF PC PG ⟨sh, { th with frames := { f with rest := rest' } :: fs, pc := .filter r }, [], obs⟩
  | claimed (obs : List Obs) (r : Reg) (rest' : List Reg) (hp : PC r rest') (ho : r.once = true)
      (hne : r.rid ∉ sh.executed) (hl : sh.live f.ctx = true) :
      Shape sh th f fs PF PC PG
        ⟨{ sh with executed := r.rid :: sh.executed },
         { th with frames := { f with rest := rest', claimed := f.claimed ++ [r.rid] } :: fs, pc := .claimed r }, [], obs⟩
  | spawn (obs : List Obs) (r : Reg) (rest' : List Reg) (hp : PG r rest') (ha : r.async = true) :
      Shape sh th f fs PF PC PG
        ⟨{ sh with inflight := sh.inflight + 1, nextSpawn := sh.nextSpawn + 1,
                   tickets := if r.seq then setKV sh.tickets r.rid (lookupD sh.tickets r.rid + 1) else sh.tickets,
                   issued := if r.seq then sh.issued ++ [(r.rid, lookupD sh.tickets r.rid)] else sh.issued },
         { th with frames := { f with rest := rest' } :: fs, pc := .spawn r sh.nextSpawn (lookupD sh.tickets r.rid) }, [], obs⟩
  | lock (obs : List Obs) (r : Reg) (rest' : List Reg) (hp : PG r rest') (ha : r.async = false) (hs : r.seq = true)
      (hl : sh.live f.ctx = true) :
      Shape sh th f fs PF PC PG ⟨sh, { th with frames := { f with rest := rest' } :: fs, pc := .lock r false }, [], obs⟩
  | enter (obs : List Obs) (r : Reg) (rest' : List Reg) (hp : PG r rest') (ha : r.async = false) (hs : r.seq = false)
      (hl : sh.live f.ctx = true) :
      Shape sh th f fs PF PC PG
        ⟨sh.noteEnter r, { th with frames := { f with rest := rest', handler := some r, body := r.body } :: fs, pc := .enter r }, [], obs⟩

theorem Shape.mono {sh th f fs PF PC PG PF' PC' PG' o} (h : Shape sh th f fs PF PC PG o)
    (hF : ∀ r l, PF r l → PF' r l) (hC : ∀ r l, PC r l → PC' r l) (hG : ∀ r l, PG r l → PG' r l) :
    Shape sh th f fs PF' PC' PG' o := by
  cases h with
  | ret obs hc => exact .ret obs hc
  | retire obs hc => exact .retire obs hc
  | filter obs r rest' hp hf => exact .filter obs r rest' (hF _ _ hp) hf
  | claimed obs r rest' hp ho hne hl => exact .claimed obs r rest' (hC _ _ hp) ho hne hl
  | spawn obs r rest' hp ha => exact .spawn obs r rest' (hG _ _ hp) ha
  | lock obs r rest' hp ha hs hl => exact .lock obs r rest' (hG _ _ hp) ha hs hl
  | enter obs r rest' hp ha hs hl => exact .enter obs r rest' (hG _ _ hp) ha hs hl

theorem Shape.reframe {sh th f fs l PF PC PG o} (h : Shape sh th { f with rest := l } fs PF PC PG o) :
    Shape sh th f fs PF PC PG o := by
  cases h <;> constructor <;> assumption

/-- the loop has stopped at the entry `r` of `l`, with `rest'` left to dispatch -/
def Suf (l : List Reg) (r : Reg) (rest' : List Reg) : Prop := r :: rest' <:+ l

/-- the loop started at `dispatch`: it stops at an entry of the rest of the snapshot – at a dispatch (`PG`) only if the
entry is not Once, since a Once entry stops at "publish.claimed" first and is dispatched from there (`CShape`) -/
abbrev DShape (sh : Shared) (th : Thread) (f : Frame) (fs : List Frame) : Out → Prop :=
  Shape sh th f fs (Suf f.rest) (Suf f.rest) (fun r l => Suf f.rest r l ∧ r.once = false)

/-- the loop started at `afterFilter r0` -/
abbrev FShape (sh : Shared) (th : Thread) (f : Frame) (fs : List Frame) (r0 : Reg) : Out → Prop :=
  Shape sh th f fs (Suf f.rest) (fun r l => (r = r0 ∧ l = f.rest) ∨ Suf f.rest r l)
    (fun r l => ((r = r0 ∧ l = f.rest) ∨ Suf f.rest r l) ∧ r.once = false)

/-- the loop started at `afterClaim r0` -/
abbrev CShape (sh : Shared) (th : Thread) (f : Frame) (fs : List Frame) (r0 : Reg) : Out → Prop :=
  Shape sh th f fs (Suf f.rest) (Suf f.rest) (fun r l => (r = r0 ∧ l = f.rest) ∨ (Suf f.rest r l ∧ r.once = false))

theorem DShape.stops {sh th f fs o} {P : Reg → List Reg → Prop} (h : DShape sh th f fs o)
    (hS : ∀ r l, Suf f.rest r l → P r l) : Shape sh th f fs P P P o :=
  h.mono hS hS (fun _ _ h => hS _ _ h.1)

theorem FShape.stops {sh th f fs r0 o} {P : Reg → List Reg → Prop} (h : FShape sh th f fs r0 o)
    (hS : ∀ r l, Suf f.rest r l → P r l) (h0 : P r0 f.rest) : Shape sh th f fs P P P o :=
  h.mono hS (fun r l h => h.elim (fun e => e.1 ▸ e.2 ▸ h0) (hS r l))
    (fun r l h => h.1.elim (fun e => e.1 ▸ e.2 ▸ h0) (hS r l))

theorem CShape.stops {sh th f fs r0 o} {P : Reg → List Reg → Prop} (h : CShape sh th f fs r0 o)
    (hS : ∀ r l, Suf f.rest r l → P r l) (h0 : P r0 f.rest) : Shape sh th f fs P P P o :=
  h.mono hS hS (fun r l h => h.elim (fun e => e.1 ▸ e.2 ▸ h0) (fun h => hS r l h.1))

/-- what a thread says of the yield point it has arrived at (`step_says`) -/
def announce (async : Bool) (th : Thread) : List Obs :=
  match th.pc, th.frames with
  | .op, _ => [.ret]
  | .enter r, f :: _ => [.enter r.rid f.ty f.v async]
  | .exit r, _ => [.exit r.rid]
  | .done, _ => [.fin]
  | _, _ => []

/-- a dispatch loop that has run: where the thread stopped (`S`: one of `DShape`, `FShape`, `CShape`), and what it
added to `obs` -/
structure Ran (S : Out → Prop) (obs : List Obs) (o : Out) : Prop where
  shape : S o
  said : o.obs = obs ++ announce false o.th

theorem Ran.imp {S S' : Out → Prop} {obs o} (h : Ran S obs o) (hS : S o → S' o) : Ran S' obs o :=
  ⟨hS h.shape, h.said⟩

/-- the one induction over the fuel of the loop: every snapshot entry costs at most three calls -/
theorem loop_all (fuel : Nat) : ∀ (sh : Shared) (th : Thread) (f : Frame) (fs : List Frame) (obs : List Obs),
    (3 * f.rest.length + 1 ≤ fuel → Ran (DShape sh th f fs) obs (dispatch sh th f fs obs fuel)) ∧
    (∀ r0, 3 * f.rest.length + 3 ≤ fuel → Ran (FShape sh th f fs r0) obs (afterFilter sh th f fs r0 obs fuel)) ∧
    (∀ r0, 3 * f.rest.length + 2 ≤ fuel → Ran (CShape sh th f fs r0) obs (afterClaim sh th f fs r0 obs fuel)) := by
  have nil : ∀ l : List Obs, l = l ++ [] := fun l => (List.append_nil l).symm
  induction fuel with
  | zero =>
    intro sh th f fs obs
    refine ⟨fun h => by omega, fun _ h => by omega, fun _ h => by omega⟩
  | succ fuel ih =>
    intro sh th f fs obs
    refine ⟨?_, ?_, ?_⟩
    · intro hfuel
      unfold dispatch
      split
      · rename_i hrest
        split
        · rename_i hc
          exact ⟨.ret _ (by simpa using hc), rfl⟩
        · rename_i hc
          have : f = { f with rest := [] } := by rw [← hrest]
          rw [this]
          exact ⟨.retire _ (by simpa using hc), nil _⟩
      · rename_i r rest hrest
        have hsuf : ∀ r' l, Suf rest r' l → Suf f.rest r' l := by
          intro r' l h; rw [hrest]; exact List.IsSuffix.trans h (List.suffix_cons _ _)
        split
        · exact ⟨.filter _ r rest (by simp [Suf, hrest]) (by simp [*]), nil _⟩
        · have h2 := ((ih sh th { f with rest := rest } fs obs).2.1 r (by simp [hrest] at hfuel ⊢; omega))
          refine h2.imp fun h => h.reframe.mono ?_ ?_ ?_
          · exact hsuf
          · rintro r' l (⟨rfl, rfl⟩ | h)
            · simp [Suf, hrest]
            · exact hsuf _ _ h
          · rintro r' l ⟨(⟨rfl, rfl⟩ | h), ho⟩
            · exact ⟨by simp [Suf, hrest], ho⟩
            · exact ⟨hsuf _ _ h, ho⟩
    · intro r0 hfuel
      have hd : Ran (FShape sh th f fs r0) obs (dispatch sh th f fs obs fuel) :=
        ((ih sh th f fs obs).1 (by omega)).imp fun h =>
          h.mono (fun _ _ h => h) (fun _ _ h => .inr h) (fun _ _ h => ⟨.inr h.1, h.2⟩)
      unfold afterFilter
      split
      · exact hd
      · split
        · split
          · exact hd
          · rename_i hl ho hex
            exact ⟨.claimed obs r0 f.rest (.inl ⟨rfl, rfl⟩) ho (by simpa using hex) (by simpa using hl), nil _⟩
        · rename_i hl ho
          exact ((ih sh th f fs obs).2.2 r0 (by omega)).imp fun h => h.mono (fun _ _ h => h) (fun _ _ h => .inr h)
            (fun r l h => by
              rcases h with ⟨rfl, rfl⟩ | ⟨h, ho'⟩
              · exact ⟨.inl ⟨rfl, rfl⟩, by simpa using ho⟩
              · exact ⟨.inr h, ho'⟩)
    · intro r0 hfuel
      unfold afterClaim
      split
      · rename_i ha
        exact ⟨.spawn obs r0 f.rest (.inl ⟨rfl, rfl⟩) ha, nil _⟩
      · rename_i ha
        split
        · exact ((ih sh th f fs obs).1 (by omega)).imp fun h => h.mono (fun _ _ h => h) (fun _ _ h => h) (fun _ _ h => .inr h)
        · rename_i hl
          split
          · rename_i hs
            exact ⟨.lock obs r0 f.rest (.inl ⟨rfl, rfl⟩) (by simpa using ha) hs (by simpa using hl), nil _⟩
          · rename_i hs
            exact ⟨.enter _ r0 f.rest (.inl ⟨rfl, rfl⟩) (by simpa using ha) (by simpa using hs) (by simpa using hl), rfl⟩

/-- The fuel is that of an activation `g` with the same `rest`, not of `f` itself: the step from "handler.exit" runs the
loop on `{ f with handler := none, body := [] }` with `fuelFor f`.  (That step is also why `Shape.pend_le`, in `ConcOnce`,
takes, beside the `f` the loop runs on, the innermost activation `f'` the thread has before the step.) -/
theorem dispatch_ran (sh th f fs obs) (g : Frame) (hg : g.rest = f.rest) :
    Ran (DShape sh th f fs) obs (dispatch sh th f fs obs (fuelFor g)) :=
  (loop_all _ sh th f fs obs).1 (by simp only [fuelFor, hg]; omega)

theorem afterFilter_ran (sh th f fs obs r0) : Ran (FShape sh th f fs r0) obs (afterFilter sh th f fs r0 obs (fuelFor f)) :=
  (loop_all _ sh th f fs obs).2.1 r0 (by simp only [fuelFor]; omega)

theorem afterClaim_ran (sh th f fs obs r0) : Ran (CShape sh th f fs r0) obs (afterClaim sh th f fs r0 obs (fuelFor f)) :=
  (loop_all _ sh th f fs obs).2.2 r0 (by simp only [fuelFor]; omega)

theorem dispatch_shape (sh th f fs obs) (g : Frame) (hg : g.rest = f.rest) :
    DShape sh th f fs (dispatch sh th f fs obs (fuelFor g)) :=
  (dispatch_ran sh th f fs obs g hg).shape

theorem afterFilter_shape (sh th f fs obs r0) :
    FShape sh th f fs r0 (afterFilter sh th f fs r0 obs (fuelFor f)) :=
  (afterFilter_ran sh th f fs obs r0).shape

theorem afterClaim_shape (sh th f fs obs r0) :
    CShape sh th f fs r0 (afterClaim sh th f fs r0 obs (fuelFor f)) :=
  (afterClaim_ran sh th f fs obs r0).shape

/-- One step of a thread, as a relation.  It over-approximates `step` (`stepR_of_step`; there is no converse): in the seven
constructors that run the dispatch loop, `o` is known only through `DShape`/`FShape`/`CShape`, which forget `o.obs` and
which way the loop went.  That is why a proof that a step does something in particular evaluates `step` once more
(`step_says`, the `claimed` case of `StepR.once`).  In the names, `…Job` leaves the bottom activation of an async goroutine,
`…Dead` finds the context cancelled, `…Sync` is any other activation. -/
inductive StepR (sh : Shared) (th : Thread) : Out → Prop
  | bodyPub (f : Frame) (fs : List Frame) (ty v : Nat) (more : List (Nat × Nat))
      (hpc : th.pc = .op) (hfr : th.frames = f :: fs) (hb : f.body = (ty, v) :: more) :
      StepR sh th ⟨sh, { th with frames := newFrame sh ty v .bg :: { f with body := more } :: fs, pc := .snap }, [], []⟩
  | bodyEnd (f : Frame) (fs : List Frame) (r : Reg)
      (hpc : th.pc = .op) (hfr : th.frames = f :: fs) (hb : f.body = []) (hh : f.handler = some r) :
      StepR sh th ⟨sh, { th with pc := .exit r }, [], [.exit r.rid]⟩
  | fin (hpc : th.pc = .op) (hfr : th.frames = []) (hp : th.prog = []) :
      StepR sh th ⟨sh, { th with pc := .done }, [], [.fin]⟩
  | subscribe (ty hid : Nat) (once async seq : Bool) (filt : Option (Nat × Nat)) (body : List (Nat × Nat)) (prog : List Op)
      (hpc : th.pc = .op) (hfr : th.frames = []) (hp : th.prog = .subscribe ty hid once async seq filt body :: prog) :
      StepR sh th ⟨{ sh with regs := sh.regs ++ [⟨sh.nextRid, ty, hid, once, async, seq, filt, body⟩], nextRid := sh.nextRid + 1 },
        { th with prog := prog }, [], [.ret]⟩
  | unsubscribe (ty hid : Nat) (prog : List Op)
      (hpc : th.pc = .op) (hfr : th.frames = []) (hp : th.prog = .unsubscribe ty hid :: prog) :
      StepR sh th ⟨{ sh with regs := eraseFirst (fun r => r.ty == ty && r.hid == hid) sh.regs,
                             removed := sh.removed + (sh.regs.length - (eraseFirst (fun r => r.ty == ty && r.hid == hid) sh.regs).length) },
        { th with prog := prog }, [], [.unsub ty hid (sh.regs.any (fun r => r.ty == ty && r.hid == hid)), .ret]⟩
  | clear (ty : Nat) (prog : List Op)
      (hpc : th.pc = .op) (hfr : th.frames = []) (hp : th.prog = .clear ty :: prog) :
      StepR sh th ⟨{ sh with regs := sh.regs.filter (fun r => r.ty != ty),
                             removed := sh.removed + (sh.regs.length - (sh.regs.filter (fun r => r.ty != ty)).length) },
        { th with prog := prog }, [], [.ret]⟩
  | cancel (k : Nat) (prog : List Op)
      (hpc : th.pc = .op) (hfr : th.frames = []) (hp : th.prog = .cancel k :: prog) :
      StepR sh th ⟨{ sh with cancelled := k :: sh.cancelled }, { th with prog := prog }, [], [.ret]⟩
  | count (ty : Nat) (prog : List Op)
      (hpc : th.pc = .op) (hfr : th.frames = []) (hp : th.prog = .count ty :: prog) :
      StepR sh th ⟨sh, { th with prog := prog }, [], [.count ty (sh.regs.filter (fun r => r.ty == ty)).length, .ret]⟩
  | wait (prog : List Op)
      (hpc : th.pc = .op) (hfr : th.frames = []) (hp : th.prog = .wait :: prog) (hidle : sh.inflight = 0) :
      StepR sh th ⟨sh, { th with prog := prog }, [], [.ret]⟩
  | publish (ty v : Nat) (ctx : Ctx) (prog : List Op)
      (hpc : th.pc = .op) (hfr : th.frames = []) (hp : th.prog = .publish ty v ctx :: prog) :
      StepR sh th ⟨sh, { th with prog := prog, frames := [newFrame sh ty v ctx], pc := .snap }, [], []⟩
  | snap (f : Frame) (fs : List Frame) (o : Out) (hpc : th.pc = .snap) (hfr : th.frames = f :: fs)
      (hsh : DShape sh th f fs o) : StepR sh th o
  | filterAcc (r : Reg) (f : Frame) (fs : List Frame) (o : Out) (hpc : th.pc = .filter r) (hfr : th.frames = f :: fs)
      (hacc : r.accepts f.v = true) (hsh : FShape sh th f fs r o) : StepR sh th o
  | filterRej (r : Reg) (f : Frame) (fs : List Frame) (o : Out) (hpc : th.pc = .filter r) (hfr : th.frames = f :: fs)
      (hrej : r.accepts f.v = false) (hsh : DShape sh th f fs o) : StepR sh th o
  | claimed (r : Reg) (f : Frame) (fs : List Frame) (o : Out) (hpc : th.pc = .claimed r) (hfr : th.frames = f :: fs)
      (hsh : CShape sh th f fs r o) : StepR sh th o
  | spawn (r : Reg) (n t : Nat) (f : Frame) (fs : List Frame) (o : Out) (hpc : th.pc = .spawn r n t) (hfr : th.frames = f :: fs)
      (hsh : DShape sh th f fs o) :
      StepR sh th { o with new := [{ pc := .astart, job := some ⟨r, f.ty, f.v, f.ctx, t, n⟩ }] }
  | lock (r : Reg) (a : Bool) (f : Frame) (fs : List Frame) (hpc : th.pc = .lock r a) (hfr : th.frames = f :: fs)
      (hfree : r.rid ∉ sh.held) (hl : sh.live f.ctx = true) :
      StepR sh th ⟨{ sh.noteEnter r with held := r.rid :: sh.held },
        { th with frames := { f with handler := some r, body := r.body } :: fs, pc := .enter r }, [], [.enter r.rid f.ty f.v a]⟩
  | lockDeadJob (r : Reg) (a : Bool) (j : Job) (f : Frame) (hpc : th.pc = .lock r a) (hj : th.job = some j) (hfr : th.frames = [f])
      (hfree : r.rid ∉ sh.held) (hl : sh.live f.ctx = false) :
      StepR sh th
        ⟨{ sh with serving := if j.reg.seq then setKV sh.serving j.reg.rid (lookupD sh.serving j.reg.rid + 1) else sh.serving },
         { th with frames := [], pc := .aend }, [], []⟩
  | lockDeadSync (r : Reg) (a : Bool) (f : Frame) (fs : List Frame) (o : Out) (hpc : th.pc = .lock r a) (hfr : th.frames = f :: fs)
      (hj : th.job = none ∨ fs ≠ []) (hfree : r.rid ∉ sh.held) (hl : sh.live f.ctx = false)
      (hsh : DShape sh th f fs o) : StepR sh th o
  | enterPub (r : Reg) (f : Frame) (fs : List Frame) (ty v : Nat) (more : List (Nat × Nat))
      (hpc : th.pc = .enter r) (hfr : th.frames = f :: fs) (hb : f.body = (ty, v) :: more) :
      StepR sh th ⟨sh, { th with frames := newFrame sh ty v .bg :: { f with body := more } :: fs, pc := .snap }, [], []⟩
  | enterEnd (r : Reg) (f : Frame) (fs : List Frame)
      (hpc : th.pc = .enter r) (hfr : th.frames = f :: fs) (hb : f.body = []) :
      StepR sh th ⟨sh, { th with pc := .exit r }, [], [.exit r.rid]⟩
  | exitJob (r : Reg) (j : Job) (f : Frame) (hpc : th.pc = .exit r) (hj : th.job = some j) (hfr : th.frames = [f]) :
      StepR sh th
        ⟨{ sh with held := if r.seq then sh.held.erase r.rid else sh.held,
                   serving := if j.reg.seq then setKV sh.serving j.reg.rid (lookupD sh.serving j.reg.rid + 1) else sh.serving },
         { th with frames := [], pc := .aend }, [], []⟩
  | exit (r : Reg) (f : Frame) (fs : List Frame) (o : Out) (hpc : th.pc = .exit r) (hfr : th.frames = f :: fs)
      (hj : th.job = none ∨ fs ≠ [])
      (hsh : DShape { sh with held := if r.seq then sh.held.erase r.rid else sh.held } th { f with handler := none, body := [] } fs o) :
      StepR sh th o
  | retire (f : Frame) (fs : List Frame) (hpc : th.pc = .retire) (hfr : th.frames = f :: fs) :
      StepR sh th
        ⟨{ sh with regs := f.claimed.foldl (fun regs c => eraseFirst (fun h => h.rid == c) regs) sh.regs,
                   removed := sh.removed + (sh.regs.length - (f.claimed.foldl (fun regs c => eraseFirst (fun h => h.rid == c) regs) sh.regs).length) },
         { th with frames := { f with claimed := [] } :: fs, pc := .retired }, [], []⟩
  | retired (f : Frame) (fs : List Frame) (hpc : th.pc = .retired) (hfr : th.frames = f :: fs) :
      StepR sh th ⟨sh, { th with frames := fs, pc := .op }, [], [.ret]⟩
  | astartSeq (j : Job) (hpc : th.pc = .astart) (hj : th.job = some j) (hs : j.reg.seq = true) :
      StepR sh th ⟨sh, { th with pc := .turn }, [], []⟩
  | astartDead (j : Job) (hpc : th.pc = .astart) (hj : th.job = some j) (hs : j.reg.seq = false) (hl : sh.live j.ctx = false) :
      StepR sh th ⟨sh, { th with pc := .aend }, [], []⟩
  | astartRun (j : Job) (hpc : th.pc = .astart) (hj : th.job = some j) (hs : j.reg.seq = false) (hl : sh.live j.ctx = true) :
      StepR sh th ⟨sh.noteEnter j.reg, { th with frames := [jobFrame j true], pc := .enter j.reg }, [], [.enter j.reg.rid j.ty j.v true]⟩
  | turnDead (j : Job) (hpc : th.pc = .turn) (hj : th.job = some j) (hturn : lookupD sh.serving j.reg.rid = j.ticket)
      (hl : sh.live j.ctx = false) :
      StepR sh th
        ⟨{ sh with turns := sh.turns ++ [(j.reg.rid, j.ticket)],
                   serving := setKV sh.serving j.reg.rid (lookupD sh.serving j.reg.rid + 1) }, { th with pc := .aend }, [], []⟩
  | turnRun (j : Job) (hpc : th.pc = .turn) (hj : th.job = some j) (hturn : lookupD sh.serving j.reg.rid = j.ticket)
      (hl : sh.live j.ctx = true) :
      StepR sh th ⟨{ sh with turns := sh.turns ++ [(j.reg.rid, j.ticket)] },
        { th with frames := [jobFrame j false], pc := .lock j.reg true }, [], []⟩
  | aend (hpc : th.pc = .aend) : StepR sh th ⟨{ sh with inflight := sh.inflight - 1 }, { th with pc := .done }, [], [.fin]⟩

theorem Shape.new_nil {sh th f fs PF PC PG o} (h : Shape sh th f fs PF PC PG o) : o.new = [] := by
  cases h <;> rfl

theorem stepR_of_step {sh : Shared} {th : Thread} {o : Out} (h : step sh th = some o) : StepR sh th o := by
  unfold step at h
  obtain ⟨hen, h⟩ := Option.ite_none_left_eq_some.1 h
  split at h
  · cases h
  · -- op
    rename_i hpc
    split at h
    · rename_i f fs hfr
      split at h
      · rename_i hb; cases h; exact .bodyPub _ _ _ _ _ hpc hfr hb
      · rename_i hb hh; cases h; exact .bodyEnd _ _ _ hpc hfr hb hh
      · cases h
    · rename_i hfr
      split at h
      · rename_i hp; cases h; exact .fin hpc hfr hp
      · rename_i op prog hp
        split at h
        · cases h; exact .subscribe _ _ _ _ _ _ _ _ hpc hfr hp
        · cases h; exact .unsubscribe _ _ _ hpc hfr hp
        · cases h; exact .clear _ _ hpc hfr hp
        · cases h; exact .cancel _ _ hpc hfr hp
        · cases h; exact .count _ _ hpc hfr hp
        · cases h; exact .wait _ hpc hfr hp (by simpa [enabled, hpc, hfr, hp] using hen)
        · cases h; exact .publish _ _ _ _ hpc hfr hp
  · -- snap
    rename_i hpc
    split at h
    · rename_i f fs hfr; cases h; exact .snap f fs _ hpc hfr (dispatch_shape _ _ _ _ _ f rfl)
    · cases h
  · -- filter
    rename_i r hpc
    split at h
    · rename_i f fs hfr
      split at h
      · rename_i hacc; cases h; exact .filterAcc r f fs _ hpc hfr hacc (afterFilter_shape _ _ _ _ _ _)
      · rename_i hacc; cases h; exact .filterRej r f fs _ hpc hfr (by simpa using hacc) (dispatch_shape _ _ _ _ _ f rfl)
    · cases h
  · -- claimed
    rename_i r hpc
    split at h
    · rename_i f fs hfr; cases h; exact .claimed r f fs _ hpc hfr (afterClaim_shape _ _ _ _ _ _)
    · cases h
  · -- spawn
    rename_i r n t hpc
    split at h
    · rename_i f fs hfr
      cases h
      have hs := dispatch_shape sh th f fs [.spawned n] f rfl
      have := StepR.spawn r n t f fs _ hpc hfr hs
      simpa [hs.new_nil] using this
    · cases h
  · -- lock
    rename_i r a hpc
    split at h
    · rename_i f fs hfr
      have hfree : r.rid ∉ sh.held := by simpa [enabled, hpc] using hen
      split at h
      · rename_i hl
        have hl' : sh.live f.ctx = false := by simpa using hl
        split at h
        · rename_i j hj; cases h
          have := StepR.lockDeadJob (sh := sh) r a j f hpc hj hfr hfree hl'
          -- The model writes `if j.reg.seq then { sh with serving := … } else sh`, `StepR` `{ sh with serving := if … }`:
          -- in the `else` case they agree by structure eta, hence `cases sh`.  Likewise for `held` at "handler.exit"; there
          -- `key` states the rest of the step for `StepR`'s form `sh1` of the state, so that the `match` is walked once.
          by_cases hjs : j.reg.seq = true
          · simpa [hjs] using this
          · cases sh; simpa [hjs] using this
        · rename_i hne; cases h
          refine .lockDeadSync r a f _ _ hpc hfr ?_ hfree hl' (dispatch_shape _ _ _ _ _ f rfl)
          cases hj : th.job with
          | none => exact .inl rfl
          | some j => exact .inr (fun h => hne j hj h)
      · rename_i hl; cases h
        exact .lock r a f fs hpc hfr hfree (by simpa using hl)
    · cases h
  · -- enter
    rename_i r hpc
    split at h
    · rename_i f fs hfr
      split at h
      · rename_i hb; cases h; exact .enterPub r f fs _ _ _ hpc hfr hb
      · rename_i hb; cases h; exact .enterEnd r f fs hpc hfr hb
    · cases h
  · -- exit
    rename_i r hpc
    have key : ∀ sh1 : Shared, sh1 = { sh with held := if r.seq then sh.held.erase r.rid else sh.held } →
        (match th.job, th.frames with
          | some j, [_] =>
            some (⟨if j.reg.seq then { sh1 with serving := setKV sh1.serving j.reg.rid (lookupD sh1.serving j.reg.rid + 1) } else sh1,
              { th with frames := [], pc := .aend }, [], []⟩ : Out)
          | _, f :: fs => some (dispatch sh1 th { f with handler := none, body := [] } fs [] (fuelFor f))
          | _, [] => none) = some o → StepR sh th o := by
      intro sh1 hsh1 h
      subst hsh1
      split at h
      · rename_i j f hj hfr; cases h
        have := StepR.exitJob (sh := sh) r j f hpc hj hfr
        by_cases hjs : j.reg.seq = true <;> simpa [hjs] using this
      · rename_i f fs hfr hne; cases h
        refine .exit r f fs _ hpc hfr ?_ (dispatch_shape _ _ _ _ _ f rfl)
        cases hj : th.job with
        | none => exact .inl rfl
        | some j => exact .inr (fun h => hne j hj h)
      · cases h
    split at h
    · rename_i hs; exact key _ (by simp [hs]) h
    · rename_i hs; exact key _ (by cases sh; simp [hs]) h
  · -- retire
    rename_i hpc
    split at h
    · rename_i f fs hfr; cases h; exact .retire f fs hpc hfr
    · cases h
  · -- retired
    rename_i hpc
    split at h
    · rename_i f fs hfr; cases h; exact .retired f fs hpc hfr
    · cases h
  · -- astart
    rename_i hpc
    split at h
    · rename_i j hj
      split at h
      · rename_i hs; cases h; exact .astartSeq j hpc hj hs
      · rename_i hs
        split at h
        · rename_i hl; cases h; exact .astartDead j hpc hj (by simpa using hs) (by simpa using hl)
        · rename_i hl; cases h; exact .astartRun j hpc hj (by simpa using hs) (by simpa using hl)
    · cases h
  · -- turn
    rename_i hpc
    split at h
    · rename_i j hj
      have hturn : lookupD sh.serving j.reg.rid = j.ticket := by simpa [enabled, hpc, hj] using hen
      dsimp only at h
      split at h
      · rename_i hl; cases h; exact .turnDead j hpc hj hturn (by simpa [Shared.live] using hl)
      · rename_i hl; cases h; exact .turnRun j hpc hj hturn (by simpa [Shared.live] using hl)
    · cases h
  · -- aend
    rename_i hpc
    cases h; exact .aend hpc

theorem StepR.new_spawn {sh th o} (h : StepR sh th o) :
    o.new = [] ∨ ∃ r n t f fs, th.pc = .spawn r n t ∧ th.frames = f :: fs ∧
      o.new = [{ pc := .astart, job := some ⟨r, f.ty, f.v, f.ctx, t, n⟩ }] := by
  cases h
  case snap hsh | filterAcc hsh | filterRej hsh | claimed hsh | exit hsh | lockDeadSync hsh => exact .inl hsh.new_nil
  case spawn hpc hfr _ => exact .inr ⟨_, _, _, _, _, hpc, hfr, rfl⟩
  all_goals exact .inl rfl

theorem StepR.new_cases {sh th o} (h : StepR sh th o) : o.new = [] ∨ ∃ j, o.new = [{ pc := .astart, job := some j }] :=
  h.new_spawn.imp id fun ⟨_, _, _, _, _, _, _, e⟩ => ⟨_, e⟩

theorem Shape.job {sh th f fs PF PC PG o} (h : Shape sh th f fs PF PC PG o) : o.th.job = th.job := by
  cases h <;> rfl

theorem StepR.job {sh th o} (h : StepR sh th o) : o.th.job = th.job := by
  cases h
  case snap hsh | filterAcc hsh | filterRej hsh | claimed hsh | spawn hsh | exit hsh | lockDeadSync hsh => exact hsh.job
  all_goals rfl

/-- the result a thread reports of the yield point it leaves (`step_says`) -/
def result (sh : Shared) (th : Thread) : List Obs :=
  match th.pc, th.frames, th.prog with
  | .filter r, f :: _, _ => [.filt r.rid f.v (r.accepts f.v)]
  | .spawn _ n _, _, _ => [.spawned n]
  | .op, [], .unsubscribe ty hid :: _ => [.unsub ty hid (sh.regs.any (fun r => r.ty == ty && r.hid == hid))]
  | .op, [], .count ty :: _ => [.count ty (sh.regs.filter (fun r => r.ty == ty)).length]
  | _, _, _ => []

/-- is the handler the thread enters next (if it enters one) delivered asynchronously?  (At a "handler.lock" with a
cancelled context that handler is skipped.) -/
def asyncAt (sh : Shared) (th : Thread) : Bool :=
  match th.pc, th.frames with
  | .astart, _ => true
  | .lock _ a, f :: _ => a && sh.live f.ctx
  | _, _ => false

/-- Events are announced on arrival: what a step says is the result of the yield point it leaves, then the announcement
of the yield point it arrives at. -/
theorem step_says {sh : Shared} {th : Thread} {o : Out} (h : step sh th = some o) :
    o.obs = result sh th ++ announce (asyncAt sh th) o.th := by
  -- in the steps that run the loop, `step` is evaluated once more to learn which call of the loop `o` is
  cases stepR_of_step h
  case snap f fs hpc hfr hsh =>
    simp only [step, enabled, hpc, hfr] at h; simp at h; subst h
    rw [(dispatch_ran _ _ _ _ _ f rfl).said]; simp [result, asyncAt, hpc, hfr]
  case filterAcc r f fs hpc hfr hacc hsh =>
    simp only [step, enabled, hpc, hfr, hacc] at h; simp at h; subst h
    rw [(afterFilter_ran _ _ _ _ _ _).said]; simp [result, asyncAt, hpc, hfr, hacc]
  case filterRej r f fs hpc hfr hacc hsh =>
    simp only [step, enabled, hpc, hfr, hacc] at h; simp at h; subst h
    rw [(dispatch_ran _ _ _ _ _ f rfl).said]; simp [result, asyncAt, hpc, hfr, hacc]
  case claimed r f fs hpc hfr hsh =>
    simp only [step, enabled, hpc, hfr] at h; simp at h; subst h
    rw [(afterClaim_ran _ _ _ _ _ _).said]; simp [result, asyncAt, hpc, hfr]
  case spawn r n t f fs o hpc hfr hsh =>
    simp only [step, enabled, hpc, hfr] at h; simp at h
    obtain ⟨_, e2, e1⟩ := h
    simp only [← e1, ← e2]
    rw [(dispatch_ran _ _ _ _ _ f rfl).said]; simp [result, asyncAt, hpc, hfr]
  case lockDeadSync r a f fs hpc hfr hj hfree hl hsh =>
    have e : o = dispatch sh th f fs [] (fuelFor f) := by
      simp only [step, enabled, hpc, hfr, hl] at h
      rcases hj with hj | hj
      · simp [hj, hfree] at h; exact h.symm
      · cases fs with
        | nil => exact absurd rfl hj
        | cons g gs => simp [hfree] at h; exact h.symm
    subst e
    rw [(dispatch_ran _ _ _ _ _ f rfl).said]; simp [result, asyncAt, hpc, hfr, hl]
  case exit r f fs hpc hfr hj hsh =>
    have e : ∃ sh0, o = dispatch sh0 th { f with handler := none, body := [] } fs [] (fuelFor f) := by
      simp only [step, enabled, hpc, hfr] at h
      rcases hj with hj | hj
      · simp [hj] at h; exact ⟨_, h.symm⟩
      · cases fs with
        | nil => exact absurd rfl hj
        | cons g gs => simp at h; exact ⟨_, h.symm⟩
    obtain ⟨sh0, rfl⟩ := e
    rw [(dispatch_ran _ _ { f with handler := none, body := [] } _ _ f rfl).said]; simp [result, asyncAt, hpc, hfr]
  all_goals simp [result, announce, asyncAt, jobFrame, *]

theorem not_enter_mem_result {sh : Shared} {th : Thread} {rid ty v : Nat} {a : Bool} :
    Obs.enter rid ty v a ∉ result sh th := by
  unfold result; split <;> simp

theorem mem_announce_enter {b : Bool} {th : Thread} {rid ty v : Nat} {a : Bool} (h : Obs.enter rid ty v a ∈ announce b th) :
    ∃ r f fs, th.pc = .enter r ∧ th.frames = f :: fs ∧ r.rid = rid ∧ f.ty = ty ∧ f.v = v ∧ a = b := by
  unfold announce at h
  split at h <;> simp at h
  rename_i r f fs hpc hfr
  exact ⟨r, f, fs, hpc, hfr, h.1.symm, h.2.1.symm, h.2.2.1.symm, h.2.2.2⟩

theorem step_enter {sh : Shared} {th : Thread} {o : Out} (h : step sh th = some o) {rid ty v : Nat} {a : Bool}
    (he : Obs.enter rid ty v a ∈ o.obs) :
    ∃ r f fs, o.th.pc = .enter r ∧ o.th.frames = f :: fs ∧ r.rid = rid ∧ f.ty = ty ∧ f.v = v ∧ a = asyncAt sh th := by
  rw [step_says h, List.mem_append] at he
  exact mem_announce_enter (he.resolve_left not_enter_mem_result)

theorem live_congr {sh sh' : Shared} (h : sh'.cancelled = sh.cancelled) (c : Ctx) : sh'.live c = sh.live c := by
  cases c <;> simp [Shared.live, h]

theorem live_of_nil {sh : Shared} (h : sh.cancelled = []) (c : Ctx) : sh.live c = true := by
  cases c <;> simp [Shared.live, h]

def pcReg : Pc → Option Reg
  | .filter r | .claimed r | .spawn r _ _ | .lock r _ | .enter r | .exit r => some r
  | _ => none

theorem Suf.mem {l : List Reg} {r : Reg} {l' : List Reg} (h : Suf l r l') : r ∈ l :=
  h.subset (List.mem_cons_self ..)

theorem Suf.tail {l : List Reg} {r : Reg} {l' : List Reg} (h : Suf l r l') : l' <:+ l :=
  (List.suffix_cons _ _).trans h

theorem Suf.all {S : Reg → Prop} {l : List Reg} {r : Reg} {l' : List Reg} (h : Suf l r l') (hl : ∀ x ∈ l, S x) :
    S r ∧ ∀ x ∈ l', S x :=
  ⟨hl r h.mem, fun x hx => hl x (h.tail.subset hx)⟩

theorem Shape.enter_cases {sh th f fs PF PC PG o} (h : Shape sh th f fs PF PC PG o) {r : Reg} (hpc : o.th.pc = .enter r) :
    sh.live f.ctx = true ∧ (∃ l, PG r l) ∧ ∃ f', o.th.frames = f' :: fs ∧ f'.ty = f.ty ∧ f'.v = f.v := by
  cases h
  case enter obs r' l hp ha hs hl => cases hpc; exact ⟨hl, ⟨l, hp⟩, _, rfl, rfl, rfl⟩
  all_goals cases hpc

/-- how a thread arrives at the entry of a handler: from "async.start", for its job; or inside an activation, for the
registration it was parked at or – synchronously – one from the rest of the snapshot; the publish context is live -/
theorem StepR.enter_cases {sh th o} (h : StepR sh th o) {r : Reg} (hpc : o.th.pc = .enter r) :
    (th.pc = .astart ∧ ∃ j, th.job = some j ∧ j.reg = r ∧ sh.live j.ctx = true ∧ o.th.frames = [jobFrame j true]) ∨
    ∃ f fs, th.frames = f :: fs ∧ sh.live f.ctx = true ∧ (pcReg th.pc = some r ∨ (r ∈ f.rest ∧ asyncAt sh th = false)) ∧
      ∃ f', o.th.frames = f' :: fs ∧ f'.ty = f.ty ∧ f'.v = f.v := by
  cases h
  case exit hpc' hfr _ hsh =>
    obtain ⟨hl, ⟨_, hp⟩, hf⟩ := hsh.enter_cases hpc
    exact .inr ⟨_, _, hfr, (live_congr rfl _).symm.trans hl, .inr ⟨hp.1.mem, by simp [asyncAt, hpc']⟩, hf⟩
  case snap | filterRej | spawn =>
    rename_i hsh
    obtain ⟨hl, ⟨_, hp⟩, hf⟩ := hsh.enter_cases hpc
    exact .inr ⟨_, _, ‹th.frames = _›, hl, .inr ⟨hp.1.mem, by simp [asyncAt, *]⟩, hf⟩
  case lockDeadSync hpc' hfr _ _ hl' hsh =>
    obtain ⟨hl, _⟩ := hsh.enter_cases hpc
    rw [hl'] at hl; cases hl
  case filterAcc hpc' hfr _ hsh =>
    obtain ⟨hl, ⟨_, hp⟩, hf⟩ := hsh.enter_cases hpc
    refine .inr ⟨_, _, hfr, hl, ?_, hf⟩
    rcases hp.1 with ⟨rfl, _⟩ | hp
    · exact .inl (by rw [hpc']; rfl)
    · exact .inr ⟨hp.mem, by simp [asyncAt, hpc']⟩
  case claimed hpc' hfr hsh =>
    obtain ⟨hl, ⟨_, hp⟩, hf⟩ := hsh.enter_cases hpc
    refine .inr ⟨_, _, hfr, hl, ?_, hf⟩
    rcases hp with ⟨rfl, _⟩ | hp
    · exact .inl (by rw [hpc']; rfl)
    · exact .inr ⟨hp.1.mem, by simp [asyncAt, hpc']⟩
  case lock hpc' hfr _ hl => cases hpc; exact .inr ⟨_, _, hfr, hl, .inl (by rw [hpc']; rfl), _, rfl, rfl, rfl⟩
  case astartRun j hpc' hj _ hl => cases hpc; exact .inl ⟨hpc', j, hj, rfl, hl, rfl⟩
  all_goals simp_all

section
variable (s : Shared) (r : Reg)
@[simp] theorem noteEnter_regs : (s.noteEnter r).regs = s.regs := by unfold Shared.noteEnter; split <;> rfl
@[simp] theorem noteEnter_nextRid : (s.noteEnter r).nextRid = s.nextRid := by unfold Shared.noteEnter; split <;> rfl
@[simp] theorem noteEnter_executed : (s.noteEnter r).executed = s.executed := by unfold Shared.noteEnter; split <;> rfl
@[simp] theorem noteEnter_cancelled : (s.noteEnter r).cancelled = s.cancelled := by unfold Shared.noteEnter; split <;> rfl
@[simp] theorem noteEnter_inflight : (s.noteEnter r).inflight = s.inflight := by unfold Shared.noteEnter; split <;> rfl
@[simp] theorem noteEnter_held : (s.noteEnter r).held = s.held := by unfold Shared.noteEnter; split <;> rfl
@[simp] theorem noteEnter_tickets : (s.noteEnter r).tickets = s.tickets := by unfold Shared.noteEnter; split <;> rfl
@[simp] theorem noteEnter_serving : (s.noteEnter r).serving = s.serving := by unfold Shared.noteEnter; split <;> rfl
@[simp] theorem noteEnter_nextSpawn : (s.noteEnter r).nextSpawn = s.nextSpawn := by unfold Shared.noteEnter; split <;> rfl
@[simp] theorem noteEnter_removed : (s.noteEnter r).removed = s.removed := by unfold Shared.noteEnter; split <;> rfl
@[simp] theorem noteEnter_issued : (s.noteEnter r).issued = s.issued := by unfold Shared.noteEnter; split <;> rfl
@[simp] theorem noteEnter_turns : (s.noteEnter r).turns = s.turns := by unfold Shared.noteEnter; split <;> rfl
theorem noteEnter_enteredOnce :
    (s.noteEnter r).enteredOnce = if r.once then r.rid :: s.enteredOnce else s.enteredOnce := by
  unfold Shared.noteEnter; split <;> rfl
end

@[simp] theorem live_noteEnter (sh : Shared) (r : Reg) (c : Ctx) : (sh.noteEnter r).live c = sh.live c := by
  cases c <;> simp [Shared.live]

theorem Shape.cancelled {sh th f fs PF PC PG o} (h : Shape sh th f fs PF PC PG o) : o.sh.cancelled = sh.cancelled := by
  cases h <;> simp

theorem StepR.cancelled {sh th o} (h : StepR sh th o) : ∃ ks, o.sh.cancelled = ks ++ sh.cancelled := by
  cases h
  case cancel k prog hpc hfr hp => exact ⟨[k], rfl⟩
  case snap hsh | filterAcc hsh | filterRej hsh | claimed hsh | spawn hsh | exit hsh | lockDeadSync hsh =>
    exact ⟨[], hsh.cancelled⟩
  all_goals exact ⟨[], by simp⟩

theorem StepR.live_mono {sh th o} (h : StepR sh th o) (c : Ctx) (hc : sh.live c = false) : o.sh.live c = false := by
  obtain ⟨ks, hk⟩ := h.cancelled
  cases c with
  | bg => simp [Shared.live] at hc
  | shared k =>
    simp only [Shared.live, Bool.not_eq_false', List.contains_eq_mem, decide_eq_true_eq] at hc ⊢
    rw [hk]; exact List.mem_append_right _ hc

theorem stepAt_cases {s s' : Sys} {i : Nat} (h : s.stepAt i = some s') :
    ∃ th o, s.ths[i]? = some th ∧ step s.sh th = some o ∧ StepR s.sh th o ∧
      s' = { sh := o.sh, ths := s.ths.set i o.th ++ o.new } := by
  unfold Sys.stepAt at h
  split at h
  · cases h
  · rename_i th hth
    split at h
    · cases h
    · rename_i o ho
      cases h
      exact ⟨th, o, hth, ho, stepR_of_step ho, rfl⟩

theorem mem_initSys {progs : List (List Op)} {t : Thread} (h : t ∈ (initSys progs).ths) : ∃ p ∈ progs, t = { prog := p } := by
  simpa [initSys, eq_comm] using h

theorem reach_ind {progs : List (List Op)} {P : Sys → Prop} (h0 : P (initSys progs))
    (hs : ∀ (s : Sys) (i : Nat) (th : Thread) (o : Out), Reachable progs s → P s → s.ths[i]? = some th →
      step s.sh th = some o → StepR s.sh th o → P { sh := o.sh, ths := s.ths.set i o.th ++ o.new }) :
    ∀ s, Reachable progs s → P s := by
  intro s h
  induction h with
  | init => exact h0
  | step hr hst ih =>
    obtain ⟨th, o, hth, ho, hR, rfl⟩ := stepAt_cases hst
    exact hs _ _ _ _ hr ih hth ho hR

theorem mem_step_cases {ths : List Thread} {i : Nat} {th' t : Thread} {new : List Thread}
    (h : t ∈ ths.set i th' ++ new) : t ∈ ths ∨ t = th' ∨ t ∈ new := by
  rcases List.mem_append.1 h with h | h
  · rcases List.mem_or_eq_of_mem_set h with h | h
    · exact .inl h
    · exact .inr (.inl h)
  · exact .inr (.inr h)

theorem StepR.thread_cases {sh th o} (h : StepR sh th o) {ths : List Thread} {i k : Nat} {t : Thread}
    (hk : (ths.set i o.th ++ o.new)[k]? = some t) :
    (k ≠ i ∧ ths[k]? = some t) ∨ (k = i ∧ t = o.th) ∨ (ths.length ≤ k ∧ ∃ j, t = { pc := .astart, job := some j }) := by
  rw [List.getElem?_append] at hk
  split at hk
  · rw [List.getElem?_set] at hk
    split at hk
    · rename_i e
      split at hk
      · exact .inr (.inl ⟨e.symm, (Option.some.inj hk).symm⟩)
      · cases hk
    · rename_i e
      exact .inl ⟨fun e' => e e'.symm, hk⟩
  · rename_i hlen
    have hm := List.mem_of_getElem? hk
    rcases h.new_cases with e | ⟨j, e⟩ <;> rw [e] at hm
    · cases hm
    · exact .inr (.inr ⟨by simpa using hlen, j, List.mem_singleton.1 hm⟩)

theorem getElem?_step_job {ths : List Thread} {i k : Nat} {th th' t : Thread} (new : List Thread)
    (hth : ths[i]? = some th) (hjob : th'.job = th.job) (hk : ths[k]? = some t) :
    ∃ t', (ths.set i th' ++ new)[k]? = some t' ∧ t'.job = t.job := by
  have hlen : k < ths.length := (List.getElem?_eq_some_iff.1 hk).1
  rw [List.getElem?_append_left (by simpa using hlen)]
  by_cases hik : i = k
  · subst hik
    rw [hth] at hk; cases hk
    exact ⟨th', List.getElem?_set_self hlen, hjob⟩
  · exact ⟨t, (List.getElem?_set_ne hik).trans hk, rfl⟩

theorem le_sum_of_mem {α : Type} (f : α → Nat) {l : List α} {a : α} (h : a ∈ l) : f a ≤ (l.map f).sum := by
  induction l with
  | nil => simp at h
  | cons x xs ih =>
    simp only [List.mem_cons] at h
    simp only [List.map_cons, List.sum_cons]
    rcases h with rfl | h
    · omega
    · have := ih h; omega

def wsum (w : Thread → Nat) (l : List Thread) : Nat := (l.map w).sum

@[simp] theorem wsum_nil (w : Thread → Nat) : wsum w [] = 0 := rfl
@[simp] theorem wsum_cons (w : Thread → Nat) (a : Thread) (l : List Thread) : wsum w (a :: l) = w a + wsum w l := by
  simp [wsum]
@[simp] theorem wsum_append (w : Thread → Nat) (l l' : List Thread) : wsum w (l ++ l') = wsum w l + wsum w l' := by
  simp [wsum]

theorem wsum_split (w : Thread → Nat) {l : List Thread} {i : Nat} {a : Thread} (h : l[i]? = some a) :
    ∃ m, wsum w l = m + w a ∧ ∀ b new, wsum w (l.set i b ++ new) = m + w b + wsum w new := by
  induction l generalizing i with
  | nil => simp at h
  | cons x xs ih =>
    cases i with
    | zero => simp at h; subst h; exact ⟨wsum w xs, by simp; omega, fun b new => by simp; omega⟩
    | succ i =>
      obtain ⟨m, h1, h2⟩ := ih (by simpa using h)
      exact ⟨w x + m, by simp [h1]; omega, fun b new => by have := h2 b new; simp at this ⊢; omega⟩

/-- An equation between the weight of the thread that steps before (`a`) and after the step (`b`, with the threads `new` it
starts) holds of the sums over all threads as well; `c` and `d` are whatever else the equation counts (the `hh` and `hp` of `TkEff`). -/
theorem wsum_step (w : Thread → Nat) {l : List Thread} {i : Nat} {a b : Thread} {new : List Thread} {c d : Nat}
    (h : l[i]? = some a) (e : w b + wsum w new + c = w a + d) : wsum w (l.set i b ++ new) + c = wsum w l + d := by
  obtain ⟨m, h1, h2⟩ := wsum_split w h
  rw [h1, h2]; omega

theorem wsum_ge (w : Thread → Nat) {l : List Thread} {i : Nat} {a : Thread} (h : l[i]? = some a) : w a ≤ wsum w l :=
  le_sum_of_mem w (List.mem_of_getElem? h)

theorem wsum_two_idx (w : Thread → Nat) {l : List Thread} {i k : Nat} {a b : Thread} (hik : i ≠ k)
    (ha : l[i]? = some a) (hb : l[k]? = some b) : w a + w b ≤ wsum w l := by
  induction l generalizing i k with
  | nil => simp at ha
  | cons x xs ih =>
    cases i with
    | zero =>
      cases k with
      | zero => exact absurd rfl hik
      | succ k =>
        simp at ha hb; subst ha
        have := wsum_ge w hb
        simp; omega
    | succ i =>
      cases k with
      | zero =>
        simp at ha hb; subst hb
        have := wsum_ge w ha
        simp; omega
      | succ k =>
        simp at ha hb
        have := ih (by omega) ha hb
        simp; omega

theorem wsum_two (w : Thread → Nat) {l : List Thread} {a b : Thread} (ha : a ∈ l) (hb : b ∈ l) (hab : a ≠ b) :
    w a + w b ≤ wsum w l := by
  obtain ⟨i, hi⟩ := List.getElem?_of_mem ha
  obtain ⟨k, hk⟩ := List.getElem?_of_mem hb
  exact wsum_two_idx w (fun e => hab (by rw [e, hk] at hi; cases hi; rfl)) hi hk

theorem wsum_zero {w : Thread → Nat} {l : List Thread} (h : ∀ t ∈ l, w t = 0) : wsum w l = 0 :=
  List.sum_eq_zero_iff_forall_eq_nat.2 (List.forall_mem_map.2 h)

theorem wsum_pos {w : Thread → Nat} {l : List Thread} (h : 1 ≤ wsum w l) : ∃ t ∈ l, 1 ≤ w t := by
  obtain ⟨_, hx, h⟩ := List.sum_pos_iff_exists_pos_nat.1 h
  obtain ⟨t, ht, rfl⟩ := List.mem_map.1 hx
  exact ⟨t, ht, h⟩

theorem wsum_init (w : Thread → Nat) (progs : List (List Op)) (h : ∀ p, w { prog := p } = 0) :
    wsum w (initSys progs).ths = 0 :=
  wsum_zero fun t ht => by obtain ⟨p, _, rfl⟩ := mem_initSys ht; exact h p

theorem countP_eq_wsum (p : Thread → Bool) (l : List Thread) : l.countP p = wsum (fun t => if p t then 1 else 0) l := by
  induction l with
  | nil => rfl
  | cons x xs ih => simp [List.countP_cons, ih]; omega

theorem wsum_add (w w' : Thread → Nat) (l : List Thread) : wsum (fun t => w t + w' t) l = wsum w l + wsum w' l := by
  induction l with
  | nil => rfl
  | cons x xs ih => simp [ih]; omega

/-- Per-thread invariants.  `hnew`: a goroutine just started is the one kind of thread a step can start
(`StepR.new_cases`). -/
theorem reach_threads {progs : List (List Op)} {P : Shared → Thread → Prop} (h0 : ∀ p ∈ progs, P {} { prog := p })
    (hnew : ∀ sh j, P sh { pc := .astart, job := some j })
    (hs : ∀ s th o, Reachable progs s → th ∈ s.ths → StepR s.sh th o → P s.sh th → P o.sh o.th ∧ ∀ t, P s.sh t → P o.sh t) :
    ∀ s, Reachable progs s → ∀ th ∈ s.ths, P s.sh th := by
  apply reach_ind
  · intro th hth
    obtain ⟨p, hp, rfl⟩ := mem_initSys hth
    exact h0 p hp
  · intro s i th o hr hi hth _ hR t ht
    have hm := List.mem_of_getElem? hth
    obtain ⟨h1, h2⟩ := hs s th o hr hm hR (hi th hm)
    rcases mem_step_cases ht with ht | rfl | ht
    · exact h2 t (hi t ht)
    · exact h1
    · rcases hR.new_cases with e | ⟨j, e⟩ <;> rw [e] at ht
      · cases ht
      · rw [List.mem_singleton.1 ht]; exact hnew _ j

/-- Counting invariants: `R` relates the shared state to the sum of a per-thread weight; `m` is what the other threads
contribute. -/
theorem reach_wsum {progs : List (List Op)} {w : Thread → Nat} {R : Shared → Nat → Prop} (hw : ∀ p, w { prog := p } = 0)
    (h0 : R {} 0)
    (hs : ∀ s th o, Reachable progs s → th ∈ s.ths → StepR s.sh th o → ∀ m, R s.sh (m + w th) →
      R o.sh (m + w o.th + wsum w o.new)) :
    ∀ s, Reachable progs s → R s.sh (wsum w s.ths) := by
  apply reach_ind
  · rw [wsum_init w progs hw]; exact h0
  · intro s i th o hr hi hth _ hR
    obtain ⟨m, h1, h2⟩ := wsum_split w hth
    rw [h1] at hi
    simp only [h2]
    exact hs s th o hr (List.mem_of_getElem? hth) hR m hi

end Inv
end Ebu.Conc
