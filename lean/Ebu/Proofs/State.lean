import Ebu.Spec.State
import Ebu.Proofs.Lists
/-!
Materialized state is the fold of the message log (C18); messages survive the round trip and
bad input is rejected without damage (C19).
-/
namespace Ebu.State

theorem registered_of_cols (m m' : Mat) (ty : Nat)
    (h : m'.cols.map Prod.fst = m.cols.map Prod.fst) : m'.registered ty = m.registered ty := by
  have : ∀ (l : List (Nat × Coll)), l.any (fun p => p.1 == ty) = (l.map Prod.fst).any (· == ty) := by
    intro l; simp [List.any_map, Function.comp_def]
  simp only [Mat.registered, this, h]

theorem updateColl_fst (m : Mat) (ty : Nat) (f : Coll → Coll) :
    (m.updateColl ty f).cols.map Prod.fst = m.cols.map Prod.fst := by
  simp only [Mat.updateColl, List.map_map]
  congr 1; funext p; simp only [Function.comp]; split <;> rfl

theorem updateColl_of_not_registered (m : Mat) (ty : Nat) (f : Coll → Coll) (h : m.registered ty = false) :
    (m.updateColl ty f).cols = m.cols := by
  rw [Mat.registered, List.any_eq_false] at h
  exact (List.map_congr_left fun p hp => if_neg (h p hp)).trans (List.map_id' m.cols)

/-- the collections after a message that applies -/
def Mat.colsAfter (m : Mat) : Msg → List (Nat × Coll)
  | .control .reset => m.cols.map fun p => (p.1, [])
  | .change ty key .insert val _ | .change ty key .update val _ => (m.updateColl ty fun c => c.set key val).cols
  | .change ty key .delete _ _ => (m.updateColl ty fun c => c.del key).cols
  | _ => m.cols

theorem colsAfter_of_not_registered {m : Mat} {ty key val : Nat} {op : Op} {ok : Bool}
    (h : m.registered ty = false) : m.colsAfter (.change ty key op val ok) = m.cols := by
  cases op <;> first | rfl | exact updateColl_of_not_registered _ _ _ h

/-- `Apply` is a check followed by an effect: a message that does not apply touches nothing but the callback
trace, one that applies moves `lastOffset` and rewrites the collections -/
theorem apply_eq (m : Mat) (e : Ev) :
    ∃ cbs, m.apply e =
      if applies m.strict m.registered e then
        ({ m with cols := m.colsAfter e.msg, lastOffset := e.off, cbs := cbs }, false)
      else ({ m with cbs := cbs }, true) := by
  obtain ⟨off, msg⟩ := e
  cases msg with
  | garbage => exact ⟨m.cbs, rfl⟩
  | control k => cases k <;> exact ⟨_, rfl⟩
  | change ty key op val valOk =>
    cases hr : m.registered ty
    · refine ⟨m.cbs, ?_⟩
      simp only [Mat.apply, applies, hr, colsAfter_of_not_registered hr]
      obtain ⟨strict, cols, lo, cbs⟩ := m
      cases strict <;> rfl
    · simp only [Mat.apply, applies, hr]
      cases op <;> cases valOk <;> exact ⟨_, rfl⟩

theorem apply_strict (m : Mat) (e : Ev) : (m.apply e).1.strict = m.strict := by
  obtain ⟨cbs, h⟩ := apply_eq m e
  rw [h]; split <;> rfl

theorem apply_err_iff (m : Mat) (e : Ev) :
    (m.apply e).2 = !applies m.strict m.registered e := by
  obtain ⟨cbs, h⟩ := apply_eq m e
  rw [h]; cases applies m.strict m.registered e <;> rfl

theorem apply_lastOffset (m : Mat) (e : Ev) :
    (m.apply e).1.lastOffset = if applies m.strict m.registered e then e.off else m.lastOffset := by
  obtain ⟨cbs, h⟩ := apply_eq m e
  rw [h]; split <;> rfl

theorem apply_cols (m : Mat) (e : Ev) :
    (m.apply e).1.cols = if applies m.strict m.registered e then m.colsAfter e.msg else m.cols := by
  obtain ⟨cbs, h⟩ := apply_eq m e
  rw [h]; split <;> rfl

/-- C19: an event that cannot be applied leaves every collection and LastOffset unchanged -/
theorem apply_error_no_change (m : Mat) (e : Ev) (h : (m.apply e).2 = true) :
    (m.apply e).1.cols = m.cols ∧ (m.apply e).1.lastOffset = m.lastOffset := by
  rw [apply_err_iff, Bool.not_eq_true'] at h
  rw [apply_cols, apply_lastOffset, h]
  exact ⟨rfl, rfl⟩

theorem colsAfter_fst (m : Mat) (msg : Msg) : (m.colsAfter msg).map Prod.fst = m.cols.map Prod.fst := by
  unfold Mat.colsAfter
  split
  · rw [List.map_map]; rfl
  · exact updateColl_fst ..
  · exact updateColl_fst ..
  · exact updateColl_fst ..
  · rfl

theorem apply_fst (m : Mat) (e : Ev) : (m.apply e).1.cols.map Prod.fst = m.cols.map Prod.fst := by
  rw [apply_cols]
  split
  · exact colsAfter_fst m e.msg
  · rfl

theorem registered_apply (m : Mat) (e : Ev) : (m.apply e).1.registered = m.registered :=
  funext fun ty => registered_of_cols _ _ ty (apply_fst m e)

theorem get_del (c : Coll) (k k' : Nat) :
    Coll.get (c.del k) k' = if k = k' then none else Coll.get c k' := by
  unfold Coll.get Coll.del
  rw [List.find?_filter]
  by_cases h : k = k'
  · simp [h]
  · rw [if_neg h]
    congr 2; funext p
    by_cases hp : p.1 = k' <;> simp [hp, Ne.symm h]

theorem get_set (c : Coll) (k v k' : Nat) :
    Coll.get (c.set k v) k' = if k = k' then some v else Coll.get c k' := by
  simp only [Coll.get, Coll.set, Lists.find?_upsert, beq_iff_eq]
  split <;> rfl

theorem lookup_of_cols (m m' : Mat) (h : m'.cols = m.cols) (ty key : Nat) :
    m'.lookup ty key = m.lookup ty key := by
  simp only [Mat.lookup, h]

theorem lookup_eq_none (m : Mat) (ty key : Nat) (h : m.registered ty = false) : m.lookup ty key = none := by
  rw [Mat.registered, ← List.isSome_find?, Option.isSome_eq_false_iff, Option.isNone_iff_eq_none] at h
  rw [Mat.lookup, h]

/-- every effect of a message on the collections is a map of this kind, acting on the value of `key` in a collection
of `ty` as some `φ`. Only a registered type has a collection for `φ` to act on: where `reg ty` in `lastWrite` comes from -/
theorem lookup_map (m : Mat) (f : Nat × Coll → Nat × Coll) (hf : ∀ p, (f p).1 = p.1) (ty key : Nat)
    (φ : Option Nat → Option Nat) (hφ : ∀ c, Coll.get (f (ty, c)).2 key = φ (Coll.get c key)) :
    Mat.lookup { m with cols := m.cols.map f } ty key = if m.registered ty then φ (m.lookup ty key) else none := by
  have hp : (fun p : Nat × Coll => p.1 == ty) ∘ f = fun p => p.1 == ty :=
    funext fun p => by simp only [Function.comp, hf]
  simp only [Mat.lookup, Mat.registered, ← List.isSome_find?, List.find?_map, hp]
  cases hfind : m.cols.find? (fun p => p.1 == ty) with
  | none => rfl
  | some q =>
    obtain ⟨t, c⟩ := q
    obtain rfl : t = ty := by simpa using List.find?_some hfind
    exact hφ c

/-- `g` sets the value of `key'` to `v`: `Coll.set` (`get_set`) and `Coll.del` (`get_del`) are the two instances -/
theorem lookup_updateColl (m : Mat) (ty' key' : Nat) (g : Coll → Coll) (v : Option Nat)
    (hg : ∀ c k, Coll.get (g c) k = if key' = k then v else Coll.get c k) (ty key : Nat) :
    (m.updateColl ty' g).lookup ty key =
      if ty' = ty ∧ key' = key ∧ m.registered ty then v else m.lookup ty key := by
  refine (lookup_map m _ (fun p => by split <;> rfl) ty key (fun acc => if ty' = ty ∧ key' = key then v else acc)
    fun c => ?_).trans ?_
  · by_cases h : ty' = ty
    · simp [h, hg]
    · simp [h, Ne.symm h]
  · cases hr : m.registered ty
    · simp [lookup_eq_none _ _ _ hr]
    · simp

/-- `lastWrite` on the one-element log is its step -/
theorem apply_lookup (m : Mat) (e : Ev) (ty key : Nat) :
    (m.apply e).1.lookup ty key = lastWrite m.strict m.registered ty key [e] (m.lookup ty key) := by
  have hcols : (m.apply e).1.lookup ty key = Mat.lookup { m with cols := (m.apply e).1.cols } ty key := rfl
  rw [hcols, apply_cols]
  simp only [lastWrite]
  cases applies m.strict m.registered e
  · rfl
  · obtain ⟨off, msg⟩ := e
    cases msg with
    | garbage => rfl
    | control k =>
      cases k
      · exact (lookup_map m (fun p => (p.1, [])) (fun _ => rfl) ty key (fun _ => none) fun _ => rfl).trans (ite_self _)
      all_goals rfl
    | change ty' key' op val ok =>
      cases op
      case insert | update => exact lookup_updateColl m ty' key' _ (some val) (fun c => get_set c key' val) ty key
      case delete => exact lookup_updateColl m ty' key' _ none (fun c => get_del c key') ty key
      case other => exact (ite_self _).symm

theorem applyAll_cons (m : Mat) (e : Ev) (l : List Ev) :
    applyAll m (e :: l) = applyAll (m.apply e).1 l := rfl

theorem applyAll_lookup (m : Mat) (log : List Ev) (ty key : Nat) :
    (applyAll m log).lookup ty key = lastWrite m.strict m.registered ty key log (m.lookup ty key) := by
  induction log generalizing m with
  | nil => rfl
  | cons e rest ih =>
    rw [applyAll_cons, ih, apply_strict, registered_apply, apply_lookup]; rfl

/-- C18: after any sequence of messages each registered collection holds exactly the last
written value of every key that was not deleted or reset afterwards -/
theorem materialize_eq_fold (m : Mat) (log : List Ev) (ty key : Nat)
    (hnodup : (m.cols.map (·.1)).Nodup) :
    (applyAll m log).lookup ty key = lastWrite m.strict m.registered ty key log (m.lookup ty key) := by
  have _ := hnodup  -- not needed: `lookup` reads the first collection of a type, `updateColl` maps all
  exact applyAll_lookup m log ty key

/-- snapshot markers, unknown operations, unknown control kinds and – in non-strict mode –
messages for unregistered entity types change no collection -/
theorem identities (m : Mat) (e : Ev)
    (h : (∃ k, e.msg = .control k ∧ k ≠ .reset) ∨ (∃ ty key val ok, e.msg = .change ty key .other val ok) ∨
         (∃ ty key op val ok, e.msg = .change ty key op val ok ∧ m.registered ty = false)) :
    (m.apply e).1.cols = m.cols := by
  rw [apply_cols]
  split
  · rcases h with ⟨k, hk, hne⟩ | ⟨ty, key, val, ok, hm⟩ | ⟨ty, key, op, val, ok, hm, hr⟩
    · rw [hk]; cases k <;> first | rfl | exact absurd rfl hne
    · rw [hm]; rfl
    · rw [hm]; exact colsAfter_of_not_registered hr
  · rfl

theorem reset_empties_all (m : Mat) (off : Nat) (ty key : Nat) :
    ((m.apply ⟨off, .control .reset⟩).1).lookup ty key = none ∧ (m.apply ⟨off, .control .reset⟩).2 = false := by
  refine ⟨?_, rfl⟩
  rw [apply_lookup]; rfl

theorem lastOffset_spec (m : Mat) (log : List Ev) :
    (applyAll m log).lastOffset = lastApplied m.strict m.registered log m.lastOffset := by
  induction log generalizing m with
  | nil => rfl
  | cons e rest ih =>
    rw [applyAll_cons, ih, apply_strict, registered_apply, apply_lastOffset]; rfl

theorem replay_spec (m : Mat) (log : List Ev) (h : ∀ e ∈ log, applies m.strict m.registered e = true) :
    m.replay log = (applyAll m log, false) := by
  induction log generalizing m with
  | nil => rfl
  | cons e rest ih =>
    have he : (m.apply e).2 = false := by rw [apply_err_iff, h e List.mem_cons_self]; rfl
    rw [applyAll_cons, ← ih _ fun e' he' => by
      rw [apply_strict, registered_apply]; exact h e' (List.mem_cons_of_mem _ he')]
    simp only [Mat.replay, he]; rfl

theorem applyAll_append (m : Mat) (l1 l2 : List Ev) :
    applyAll m (l1 ++ l2) = applyAll (applyAll m l1) l2 := by
  simp only [applyAll, List.foldl_append]

theorem applyAll_config (m : Mat) (l : List Ev) :
    (applyAll m l).strict = m.strict ∧ (applyAll m l).registered = m.registered :=
  List.foldlRecOn (motive := fun m' => m'.strict = m.strict ∧ m'.registered = m.registered) l _ ⟨rfl, rfl⟩
    fun m' h e _ => ⟨(apply_strict m' e).trans h.1, (registered_apply m' e).trans h.2⟩

theorem after_append (o : Nat) (l1 l2 : List Ev) (h1 : ∀ e ∈ l1, e.off ≤ o) (h2 : ∀ e ∈ l2, o < e.off) :
    after o (l1 ++ l2) = l2 := by
  have e1 : after o l1 = [] := List.filter_eq_nil_iff.mpr fun e he => by have := h1 e he; simp; omega
  have e2 : after o l2 = l2 := List.filter_eq_self.mpr fun e he => by simpa using h2 e he
  rw [after, List.filter_append, ← after, ← after, e1, e2]; rfl

theorem after_resume (m : Mat) (l1 l2 : List Ev) (hinc : increasing (l1 ++ l2))
    (hstart : ∀ e ∈ l1 ++ l2, m.lastOffset < e.off)
    (hok : ∀ e ∈ l1, applies m.strict m.registered e = true) :
    after (applyAll m l1).lastOffset (l1 ++ l2) = l2 := by
  rcases List.eq_nil_or_concat l1 with rfl | ⟨L, b, rfl⟩
  · exact after_append _ [] l2 (fun _ h => nomatch h) hstart
  · rw [List.concat_eq_append] at hinc hok ⊢
    have hb : (applyAll m (L ++ [b])).lastOffset = b.off := by
      rw [applyAll_append]
      show ((applyAll m L).apply b).1.lastOffset = b.off
      rw [apply_lastOffset, (applyAll_config m L).1, (applyAll_config m L).2, hok b (by simp)]; rfl
    obtain ⟨hL, _, h12⟩ := List.pairwise_append.mp hinc
    rw [hb]
    refine after_append _ _ _ (fun e he => ?_) fun e he => h12 b (by simp) e he
    rcases List.mem_append.mp he with he | he
    · exact Nat.le_of_lt ((List.pairwise_append.mp hL).2.2 e he b (by simp))
    · rw [List.mem_singleton.mp he]; exact Nat.le_refl _

/-- C18: applying a log in two sessions – the second resumed from LastOffset – gives the same
state as applying it in one (logs whose events all apply, with increasing offsets) -/
theorem resume_equiv (m : Mat) (l1 l2 : List Ev) (hinc : increasing (l1 ++ l2))
    (hstart : ∀ e ∈ l1 ++ l2, m.lastOffset < e.off)
    (hok : ∀ e ∈ l1 ++ l2, applies m.strict m.registered e = true) :
    ((m.replay l1).1.replay (after (m.replay l1).1.lastOffset (l1 ++ l2))).1 = (m.replay (l1 ++ l2)).1 := by
  have hok1 : ∀ e ∈ l1, applies m.strict m.registered e = true :=
    fun e he => hok e (List.mem_append_left _ he)
  have hok2 : ∀ e ∈ l2, applies (applyAll m l1).strict (applyAll m l1).registered e = true := by
    intro e he
    rw [(applyAll_config m l1).1, (applyAll_config m l1).2]
    exact hok e (List.mem_append_right _ he)
  rw [replay_spec m l1 hok1, replay_spec m (l1 ++ l2) hok]
  simp only
  rw [after_resume m l1 l2 hinc hstart hok1, replay_spec _ l2 hok2, applyAll_append]

/-- keys containing the separator cannot collide inside a collection: for a fixed entity
type the composite key determines the key -/
theorem compositeKey_inj (ty k1 k2 : String) (h : compositeKey ty k1 = compositeKey ty k2) : k1 = k2 := by
  simp only [compositeKey, String.append_assoc] at h
  exact (String.append_right_inj _).mp ((String.append_right_inj _).mp h)

end Ebu.State

namespace Ebu.StateWire

section field
variable {α : Type} (name : String)

theorem field_nil : field name ([] : List (String × α)) = none := rfl

/-- the last matching key wins -/
theorem field_append (a b : List (String × α)) :
    field name (a ++ b) = (field name b).or (field name a) := by
  simp only [field, List.filter_append, List.getLast?_append, Option.map_or]

theorem field_cons (k : String) (v : α) (fs : List (String × α)) :
    field name ((k, v) :: fs) = (field name fs).or (if fold k == fold name then some v else none) := by
  rw [← List.singleton_append, field_append]
  congr 1
  simp only [field, List.filter_cons, List.filter_nil]
  split <;> rfl

end field

theorem asString_field_strs {hs : List (String × Leaf)} (h : ∀ p ∈ hs, ∃ s, p.2 = .str s) (name : String) :
    ∃ s, asString (field name hs) = some s := by
  cases hf : field name hs with
  | none => exact ⟨_, rfl⟩
  | some l =>
    obtain ⟨p, hp, rfl⟩ := Option.map_eq_some_iff.mp hf
    obtain ⟨s, hs⟩ := h p (List.mem_filter.mp (List.mem_of_getLast? hp)).1
    exact ⟨s, hs ▸ rfl⟩

theorem optField_strs (k s : String) : ∀ p ∈ optField k s, ∃ s, p.2 = Leaf.str s := by
  unfold optField
  split <;> simp

theorem field_optField (name k s : String) :
    field name (optField k s) = if fold k == fold name ∧ s ≠ "" then some (.str s) else none := by
  unfold optField
  by_cases h : s = "" <;> simp [h, field_cons, field_nil]

/-- `decode` reads a document only through `field`: any object with these fields – in any order, in any
spelling of the keys, among any other fields – is this change message -/
theorem decode_obj_change {fs : List (String × Val)} {hs : List (String × Leaf)} {ty key op : String}
    {v : Option Nat} (hty : field "type" fs = some (.leaf (.str ty))) (hkey : field "key" fs = some (.leaf (.str key)))
    (hv : field "value" fs = v.map fun n => .leaf (.doc n)) (hh : field "headers" fs = some (.obj hs))
    (hstr : ∀ p ∈ hs, ∃ s, p.2 = .str s)
    (hctl : field "control" hs = none) (hop : field "operation" hs = some (.str op)) :
    decode (.obj fs) = .change ty key op (v.map .doc) := by
  obtain ⟨_, ho⟩ := asString_field_strs hstr "offset"
  obtain ⟨_, hx⟩ := asString_field_strs hstr "txid"
  obtain ⟨_, ht⟩ := asString_field_strs hstr "timestamp"
  have hctl : asString (field "control" hs) = some "" := by rw [hctl]; rfl
  have hop : asString (field "operation" hs) = some op := by rw [hop]; rfl
  have hty : asStringV (field "type" fs) = some ty := by rw [hty]; rfl
  have hkey : asStringV (field "key" fs) = some key := by rw [hkey]; rfl
  simp only [decode, controlOf, changeOf, hh, hctl, ho, hty, hkey, hop, hx, ht, hv]
  cases v <;> rfl

theorem decode_obj_control {fs : List (String × Val)} {hs : List (String × Leaf)} {c : String}
    (hh : field "headers" fs = some (.obj hs)) (hstr : ∀ p ∈ hs, ∃ s, p.2 = .str s)
    (hctl : field "control" hs = some (.str c)) (hc : c ≠ "") :
    decode (.obj fs) = .control c := by
  obtain ⟨_, ho⟩ := asString_field_strs hstr "offset"
  have hctl : asString (field "control" hs) = some c := by rw [hctl]; rfl
  simp only [decode, controlOf, hh, hctl, ho, String.isEmpty_iff, hc, if_false]

/-- the protocol's field names are lower case: folding leaves them alone.  (`fold` does not compute by
itself – `String.map` is defined by well-founded recursion – so the names are folded here, once, through
their character lists.) -/
theorem fold_names :
    fold "type" = "type" ∧ fold "key" = "key" ∧ fold "value" = "value" ∧ fold "old_value" = "old_value" ∧
    fold "headers" = "headers" ∧ fold "operation" = "operation" ∧ fold "txid" = "txid" ∧
    fold "timestamp" = "timestamp" ∧ fold "control" = "control" ∧ fold "offset" = "offset" := by
  simp [fold, String.ext_iff]

/-- C19: a change message built by the helpers decodes to the same entity type, key,
operation and value – for every option combination – and is never mistaken for a control message -/
theorem decode_encode_change (m : Change) :
    decode (encodeChange m) = .change m.ty m.key m.op (m.value.map Leaf.doc) := by
  apply decode_obj_change (hs := [("operation", .str m.op)] ++ optField "txid" m.txid ++ optField "timestamp" m.ts)
  case hstr =>
    simp only [List.forall_mem_append, List.forall_mem_singleton]
    exact ⟨⟨⟨_, rfl⟩, optField_strs _ _⟩, optField_strs _ _⟩
  case hh => simp only [field_append, field_cons, field_nil, BEq.rfl, if_true, Option.none_or, Option.some_or]
  case hctl | hop => simp [field_append, field_cons, field_optField, fold_names]
  -- `type`, `key`, `value`: the fields that follow carry other names, whichever of them are there
  all_goals
    simp only [field_append, field_cons, field_nil, fold_names]
    cases m.value <;> cases m.old <;> simp [field_cons, field_nil, fold_names]

/-- C19: a control message built by the helpers is recognised as that control message
(helpers always set a non-empty control kind) -/
theorem decode_encode_control (m : Control) (h : m.control ≠ "") :
    decode (encodeControl m) = .control m.control := by
  refine decode_obj_control (hs := [("control", .str m.control)] ++ optField "offset" m.offset) ?_ ?_ ?_ h
  · simp only [field_cons, field_nil, BEq.rfl, if_true, Option.none_or]
  · simp only [List.forall_mem_append, List.forall_mem_singleton]
    exact ⟨⟨_, rfl⟩, optField_strs _ _⟩
  · simp [field_cons, field_optField, fold_names]

/-- a document that is neither a JSON object nor `null` is rejected (`null` decodes to the empty change message) -/
theorem decode_notObject : decode .notObject = .error := rfl

/-- C19: the serialised form uses exactly the state-protocol field names, with `omitempty` -/
theorem wire_field_names (m : Change) :
    ∃ hs, encodeChange m = .obj ([("type", .leaf (.str m.ty)), ("key", .leaf (.str m.key))] ++
        (match m.value with | some v => [("value", Val.leaf (.doc v))] | none => []) ++
        (match m.old with | some v => [("old_value", Val.leaf (.doc v))] | none => []) ++ [("headers", .obj hs)]) ∧
      hs.map (·.1) = ["operation"] ++ (if m.txid.isEmpty then [] else ["txid"]) ++ (if m.ts.isEmpty then [] else ["timestamp"]) := by
  refine ⟨_, rfl, ?_⟩
  cases h1 : m.txid.isEmpty <;> cases h2 : m.ts.isEmpty <;> simp [optField, h1, h2]

end Ebu.StateWire
