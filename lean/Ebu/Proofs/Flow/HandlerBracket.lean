import Ebu.Spec.Flow
namespace Ebu.Flow

theorem handlerBracket_holds : handlerBracket = true := by decide +kernel

end Ebu.Flow
