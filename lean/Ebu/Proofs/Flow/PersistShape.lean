import Ebu.Spec.Flow
namespace Ebu.Flow

theorem persistShape_holds : persistShape = true := by decide +kernel

end Ebu.Flow
