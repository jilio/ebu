import Ebu.Spec.Flow
namespace Ebu.Flow

theorem retireByIdentity_holds : retireByIdentity = true := by decide +kernel

end Ebu.Flow
