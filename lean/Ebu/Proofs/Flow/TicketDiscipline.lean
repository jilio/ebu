import Ebu.Spec.Flow
namespace Ebu.Flow

theorem ticketDiscipline_holds : ticketDiscipline = true := by decide +kernel

end Ebu.Flow
