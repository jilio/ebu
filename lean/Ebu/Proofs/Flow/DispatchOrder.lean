import Ebu.Spec.Flow
namespace Ebu.Flow

theorem dispatchOrder_holds : dispatchOrder = true := by decide +kernel

end Ebu.Flow
