import Ebu.Spec.Flow
namespace Ebu.Flow

theorem clearShape_holds : clearShape = true := by decide +kernel

theorem subscribeShape_holds : subscribeShape = true := by decide +kernel

theorem unsubscribeShape_holds : unsubscribeShape = true := by decide +kernel

end Ebu.Flow
