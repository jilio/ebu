import Ebu.Spec.Flow
namespace Ebu.Flow

theorem applyShape_holds : applyShape = true := by decide +kernel

end Ebu.Flow
