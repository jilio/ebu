import Ebu.Spec.Flow
namespace Ebu.Flow

theorem materializerShape_holds : materializerShape = true := by decide +kernel

end Ebu.Flow
