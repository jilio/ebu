import Ebu.Spec.Flow
namespace Ebu.Flow

theorem condVarShape_holds : condVarShape = true := by decide +kernel

end Ebu.Flow
