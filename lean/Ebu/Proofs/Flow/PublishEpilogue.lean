import Ebu.Spec.Flow
namespace Ebu.Flow

theorem publishEpilogue_holds : publishEpilogue = true := by decide +kernel

end Ebu.Flow
