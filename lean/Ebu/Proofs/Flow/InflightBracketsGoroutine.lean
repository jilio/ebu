import Ebu.Spec.Flow
namespace Ebu.Flow

theorem inflightBracketsGoroutine_holds : inflightBracketsGoroutine = true := by decide +kernel

end Ebu.Flow
