import Ebu.Spec.Flow
namespace Ebu.Flow

theorem publishPrelude_holds : publishPrelude = true := by decide +kernel

end Ebu.Flow
