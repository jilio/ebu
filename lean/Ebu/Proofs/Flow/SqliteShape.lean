import Ebu.Spec.Flow
namespace Ebu.Flow

theorem sqliteShape_holds : sqliteShape = true := by decide +kernel

end Ebu.Flow
