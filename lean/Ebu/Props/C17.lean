import Ebu.Spec.Flow
import Ebu.Model.Upcast
import Ebu.Proofs.Upcast
import Ebu.Proofs.Flow.ApplyShape
/-!
C17 — Upcasting applies the whole chain or nothing.
-/
namespace Ebu.Props.C17
open Ebu.Upcast

/-- on success the result is the composition of the first-registered upcaster of each
successive type, up to a type that has no upcaster -/
theorem apply_is_first_chain (g : Graph) (h : Bool) (d : List Nat) (t : Nat)
    (hok : (apply g h d t).err = none) :
    Chain g (d, t) ((apply g h d t).data, (apply g h d t).ty) :=
  (Ebu.Upcast.apply_outcome g h d t).chain hok

/-- on any failure the original data and type come back: never a partly upcast event -/
theorem apply_all_or_nothing (g : Graph) (h : Bool) (d : List Nat) (t : Nat)
    (herr : (apply g h d t).err ≠ none) :
    (apply g h d t).data = d ∧ (apply g h d t).ty = t :=
  (Ebu.Upcast.apply_outcome g h d t).original herr (Ebu.Upcast.apply_no_fuel g h d t)

/-- the upcast error handler is called exactly once for a failing upcast function (with the
failing step's type and input data), and never otherwise -/
theorem error_handler_once (g : Graph) (h : Bool) (d : List Nat) (t : Nat) :
    (∀ s x, (apply g h d t).err = some (.failed s x) →
        (apply g h d t).errCalls =
          if h then [(s, ((apply g h d t).calls.getLast?.map (·.2)).getD [])] else []) ∧
    ((∀ s x, (apply g h d t).err ≠ some (.failed s x)) → (apply g h d t).errCalls = []) :=
  (Ebu.Upcast.apply_outcome g h d t).errCalls

/-- in a registry built through the API with honest upcasters (each returns its declared
target) none of which fails, upcasting always succeeds: the loop guard never misfires -/
theorem apply_complete (g : Graph) (h : Bool) (d : List Nat) (t : Nat)
    (hac : Acyclic g) (hhonest : ∀ u ∈ g, u.ret = u.dst) (hnofail : ∀ u ∈ g, u.fails = false) :
    (apply g h d t).err = none :=
  Ebu.Upcast.apply_complete g h d t hac hhonest hnofail

/-- an event whose type has no upcaster is untouched and no upcast function is called -/
theorem no_upcaster_untouched (g : Graph) (h : Bool) (e : Stored) (hn : ups g e.ty = []) :
    (upcastStored g h e).1 = e ∧ (upcastStored g h e).2.calls = [] :=
  Ebu.Upcast.upcastStored_none g h e hn

/-- what the replay callback sees: offset and timestamp unchanged; composed data and final
type on success; the stored event itself on failure -/
theorem replay_passthrough (g : Graph) (h : Bool) (e : Stored) :
    (upcastStored g h e).1.off = e.off ∧ (upcastStored g h e).1.ts = e.ts ∧
    ((upcastStored g h e).2.err ≠ none → (upcastStored g h e).1 = e) ∧
    ((upcastStored g h e).2.err = none →
        Chain g (e.data, e.ty) ((upcastStored g h e).1.data, (upcastStored g h e).1.ty)) :=
  Ebu.Upcast.upcastStored_spec g h e

/-- non-vacuity: a two-step chain succeeds; a failure at the second step gives back the original -/
example :
    (apply [⟨1, 2, 2, false, 7⟩, ⟨2, 3, 3, false, 8⟩] true [5] 1).data = [5, 7, 8] ∧
    (apply [⟨1, 2, 2, false, 7⟩, ⟨2, 3, 3, true, 8⟩] true [5] 1).data = [5] ∧
    (apply [⟨1, 2, 2, false, 7⟩, ⟨2, 3, 3, true, 8⟩] true [5] 1).errCalls = [(2, [5, 7])] := by
  decide


/-! ### obligations on the control flow of the CURRENT source (`Ebu/Generated/Flow.lean`, regenerated from /repo on every run) -/

/-- OBLIGATION: `apply` runs the whole chain under the registry's read lock (one registry state per chain), reports a
failing step to the error handler exactly there (once), and advances data and type together only after both guards -/
theorem flow_apply_shape : Ebu.Flow.applyShape = true := Ebu.Flow.applyShape_holds

end Ebu.Props.C17
