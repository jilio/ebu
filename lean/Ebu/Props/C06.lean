import Ebu.Proofs.ConcTrace
import Ebu.Proofs.ConcTermination
import Ebu.Spec.Flow
import Ebu.Proofs.Shutdown
import Ebu.Model.Inflight
import Ebu.Generated.Consts
import Ebu.Props.C03Facts
import Ebu.Spec.Conc
import Ebu.Proofs.Conc
import Ebu.Proofs.Flow.CondVarShape
import Ebu.Proofs.Flow.InflightBracketsGoroutine
/-!
C06 — Wait and Shutdown return only after all asynchronous work has finished

Model: M2 (`Ebu/Model/Conc.lean`), the interleaving model: `Reachable progs s` ranges over every program, any number of threads and every schedule at yield-point granularity.
-/
namespace Ebu.Props.C06
open Ebu.Conc

/-- `bus.wg` counts exactly the async goroutines that exist and are not finished, plus those a
publisher has counted in and is about to start -/
theorem inflight_counts (progs : List (List Op)) (s : Sys) (h : Reachable progs s) :
    s.sh.inflight = liveJobs s + pendingSpawns s :=
  Ebu.Conc.inflight_counts progs s h

/-- `Wait` returns only when no async invocation is unfinished – whoever published it,
including handlers publishing from handlers -/
theorem wait_returns_only_when_idle (progs : List (List Op)) (s s' : Sys) (h : Reachable progs s) (i : Nat)
    (th : Thread) (prog : List Op) (hth : s.ths[i]? = some th) (hpc : th.pc = .op) (hfr : th.frames = [])
    (hprog : th.prog = .wait :: prog) (hstep : s.stepAt i = some s') :
    liveJobs s = 0 ∧ pendingSpawns s = 0 :=
  Ebu.Conc.wait_returns_only_when_idle progs s s' h i th prog hth hpc hfr hprog hstep

/-! ### the counter behind `Wait` (M2w) and what the CURRENT source does with its condition variable -/

/-- the wake-up discipline of the source, read off `inflight.done` on every run -/
def sourceWake : Ebu.Inflight.Wake :=
  if Ebu.Generated.Consts.inflightDoneWake == "Broadcast" then .broadcast
  else if Ebu.Generated.Consts.inflightDoneWake == "Signal" then .signal else .none

/-- OBLIGATION on the current source: `done` broadcasts when the count reaches zero and `wait` re-checks
the count in a loop -/
theorem source_broadcasts : sourceWake = .broadcast ∧ Ebu.Generated.Consts.inflightWaitRechecks = true := by decide

/-- hence, however many goroutines are in `Wait` at once and whatever the schedule, none of them stays parked
on the condition variable while nothing is in flight (no lost wake-up) … -/
theorem no_waiter_left_behind (ops : List Ebu.Inflight.Op) :
    Ebu.Inflight.NoLostWakeup (Ebu.Inflight.run sourceWake ops) := by
  rw [source_broadcasts.1]; exact Ebu.Inflight.broadcast_no_lost_wakeup ops

/-- … and a `Wait` returns only in a state with nothing in flight -/
theorem wait_returns_only_idle (s : Ebu.Inflight.St) (op : Ebu.Inflight.Op) (g : Nat)
    (hnew : g ∈ (Ebu.Inflight.step sourceWake s op).returned) (hold : g ∉ s.returned) : s.n = 0 :=
  Ebu.Inflight.returns_only_when_idle sourceWake s op g hnew hold

/-- the in-flight counter is only touched under its mutex in the CURRENT source: `add` and `done` cannot lose an update
(a lock-free `add` next to a locked `n--` would) -/
theorem inflight_counter_locked : Ebu.Locks.Discipline Ebu.Generated.accessFacts = true :=
  Ebu.Props.C03.facts_discipline

/-- the obligation is not decoration: with `Signal` two waiters and one finishing handler leave a waiter parked -/
theorem signal_would_lose_a_waiter :
    ¬ Ebu.Inflight.NoLostWakeup (Ebu.Inflight.run .signal [.add, .wait 1, .wait 2, .done]) :=
  Ebu.Inflight.signal_loses_wakeup

/-- Shutdown returns nil (or the store's close error) only when no asynchronous work is in
flight, and only then – exactly once – closes the store; when it returns the context's error it
has not closed it -/
theorem shutdown_spec (s s' : Ebu.Shutdown.S) (pick : Bool) (o : Ebu.Shutdown.Outcome)
    (h : Ebu.Shutdown.shutdown s pick = some (s', o)) :
    (o = .nil_ ∨ o = .closeError → s.inflight = 0 ∧ s'.closes = s.closes + (if s.hasCloser then 1 else 0)) ∧
    (o = .ctxError → s.cancelled = true ∧ s' = s) ∧ s'.inflight = s.inflight :=
  Ebu.Shutdown.shutdown_spec s s' pick o h

/-- … and it blocks exactly while work is in flight and the context is live -/
theorem shutdown_blocks_iff (s : Ebu.Shutdown.S) (pick : Bool) :
    Ebu.Shutdown.shutdown s pick = none ↔ (s.inflight ≠ 0 ∧ s.cancelled = false) :=
  Ebu.Shutdown.shutdown_blocks_iff s pick

/-! ### obligations on the control flow of the CURRENT source (`Ebu/Generated/Flow.lean`, regenerated from /repo on every run) -/

/-- OBLIGATION: M2's `inflight + 1` happens in the publisher before the `go` statement (outside the goroutine, once per async dispatch) and `inflight - 1` is deferred first thing inside the goroutine -/
theorem flow_inflight_brackets_goroutine : Ebu.Flow.inflightBracketsGoroutine = true :=
  Ebu.Flow.inflightBracketsGoroutine_holds

/-- OBLIGATION: `Shutdown` waits in a goroutine that then closes `done`; the store is closed only in the `<-done` branch – never in the `<-ctx.Done()` branch, never in the goroutine -/
theorem flow_shutdown_shape : Ebu.Flow.shutdownShape = true := by decide +kernel

/-- OBLIGATION: `inflight.wait` re-checks the count in a loop around `cond.Wait`, `inflight.done` broadcasts when the count reaches zero (M2w's `Wake.broadcast`) -/
theorem flow_wait_rechecks_and_done_broadcasts : Ebu.Flow.condVarShape = true := Ebu.Flow.condVarShape_holds

/-! ### every asynchronous delivery runs exactly once (M2 with its trace, `Ebu/Spec/ConcTrace.lean`) -/

/-- an async goroutine performs at most one asynchronous delivery – the one it was started for (right registration,
type and value) – under every schedule -/
theorem async_delivery_at_most_once (progs : List (List Ebu.Conc.Op)) (x : Ebu.Conc.SysT) (h : Ebu.Conc.ReachableT progs x)
    (i : Nat) (th : Ebu.Conc.Thread) (j : Ebu.Conc.Job) (hi : x.s.ths[i]? = some th) (hj : th.job = some j) :
    Ebu.Conc.asyncEntersOf i x.tr = [] ∨ Ebu.Conc.asyncEntersOf i x.tr = [Ebu.Conc.Obs.enter j.reg.rid j.ty j.v true] :=
  Ebu.Conc.async_at_most_once h i th j hi hj

/-- … and once the goroutine has finished it has performed it exactly once, provided the publish context is still live
(contexts are only ever cancelled, so "live now" means "live throughout") -/
theorem async_delivery_exactly_once (progs : List (List Ebu.Conc.Op)) (x : Ebu.Conc.SysT) (h : Ebu.Conc.ReachableT progs x)
    (i : Nat) (th : Ebu.Conc.Thread) (j : Ebu.Conc.Job) (hi : x.s.ths[i]? = some th) (hj : th.job = some j)
    (hd : th.pc = .done) (hl : x.s.sh.live j.ctx = true) :
    Ebu.Conc.asyncEntersOf i x.tr = [Ebu.Conc.Obs.enter j.reg.rid j.ty j.v true] :=
  Ebu.Conc.async_exactly_once_when_done h i th j hi hj hd hl

/-- every goroutine announced by the publisher exists, and the goroutines of the test program never perform an
asynchronous delivery themselves -/
theorem spawned_goroutines_exist (progs : List (List Ebu.Conc.Op)) (x : Ebu.Conc.SysT) (h : Ebu.Conc.ReachableT progs x) :
    (x.tr.filter (fun p => match p.2 with | .spawned _ => true | _ => false)).length =
      (x.s.ths.filter (fun th => th.job.isSome)).length :=
  Ebu.Conc.Inv.spawnedCount_reachable x h

/-- LIVENESS at the end of every maximal run: under the rank hypothesis (the one documented exception of C03) a state
from which no goroutine can step is quiescent – every goroutine has finished, nothing is in flight – and every
asynchronous delivery whose publish context is live has run exactly once; in particular a goroutine blocked in `Wait`
is never left behind -/
theorem maximal_run_delivers_everything (ρ : Nat → Nat) (progs : List (List Ebu.Conc.Op)) (hr : Ebu.Conc.Ranked ρ progs)
    (x : Ebu.Conc.SysT) (h : Ebu.Conc.ReachableT progs x) (hmax : ¬ x.s.canStep) :
    x.s.allDone ∧ x.s.sh.inflight = 0 ∧
    ∀ i th j, x.s.ths[i]? = some th → th.job = some j → x.s.sh.live j.ctx = true →
      Ebu.Conc.asyncEntersOf i x.tr = [Ebu.Conc.Obs.enter j.reg.rid j.ty j.v true] :=
  Ebu.Conc.maximal_run_delivers_everything ρ progs hr h hmax

/-- `Wait` returns, and every goroutine finishes, after finitely many steps whatever the scheduler does: under the strict
rank hypothesis every schedule is finite and can be continued to a quiescent end -/
theorem wait_eventually_returns (ρ : Nat → Nat) (progs : List (List Ebu.Conc.Op)) (hr : Ebu.Conc.RankedStrict ρ progs) :
    (∃ bound : Nat, ∀ (sched : List Nat) (s : Ebu.Conc.Sys),
      Ebu.Conc.runSched (Ebu.Conc.initSys progs) sched = some s → sched.length ≤ bound) ∧
    (∀ s, Ebu.Conc.Reachable progs s →
      ∃ (sched : List Nat) (s2 : Ebu.Conc.Sys), Ebu.Conc.runSched s sched = some s2 ∧ s2.allDone ∧ s2.sh.inflight = 0) :=
  ⟨Ebu.Conc.runs_terminate ρ progs hr, fun s h => Ebu.Conc.every_run_completes ρ progs hr s h⟩

/-- the traced system is the plain one with bookkeeping: the two reachability notions coincide -/
theorem trace_is_bookkeeping (progs : List (List Ebu.Conc.Op)) :
    (∀ x, Ebu.Conc.ReachableT progs x → Ebu.Conc.Reachable progs x.s) ∧
    (∀ s, Ebu.Conc.Reachable progs s → ∃ tr, Ebu.Conc.ReachableT progs ⟨s, tr⟩) :=
  ⟨fun _ h => Ebu.Conc.reachableT_reachable h, fun _ h => Ebu.Conc.reachable_has_trace h⟩

/-- why deliveries are counted with `asyncEntersOf`: the goroutine of an async handler also enters the synchronous
handlers of what that handler publishes -/
theorem nested_sync_entries_are_not_deliveries :
    ∃ progs x i th j, Ebu.Conc.ReachableT progs x ∧ x.s.ths[i]? = some th ∧ th.job = some j ∧ th.pc = .done ∧
      x.s.sh.live j.ctx = true ∧
      ¬(Ebu.Conc.entersOf i x.tr = [] ∨ Ebu.Conc.entersOf i x.tr = [Ebu.Conc.Obs.enter j.reg.rid j.ty j.v true]) ∧
      Ebu.Conc.asyncEntersOf i x.tr = [Ebu.Conc.Obs.enter j.reg.rid j.ty j.v true] :=
  Ebu.Conc.entersOf_counterexample

end Ebu.Props.C06
