import Ebu.Proofs.ConcTrace
import Ebu.Proofs.ConcOrder
import Ebu.Proofs.ConcTermination
import Ebu.Model.TurnLock
import Ebu.Spec.Flow
import Ebu.Props.C03Facts
import Ebu.Spec.Conc
import Ebu.Proofs.Conc
import Ebu.Proofs.Flow.CondVarShape
import Ebu.Proofs.Flow.HandlerBracket
import Ebu.Proofs.Flow.TicketDiscipline
/-!
C07 — Sequential handlers never overlap and process events in publish order

Model: M2 (`Ebu/Model/Conc.lean`), the interleaving model: `Reachable progs s` ranges over every program, any number of threads and every schedule at yield-point granularity.
-/
namespace Ebu.Props.C07
open Ebu.Conc

/-- invocations of a Sequential registration never overlap: at most one activation is inside it,
and exactly when its mutex is held -/
theorem seq_mutex (progs : List (List Op)) (s : Sys) (h : Reachable progs s) (rid : Nat) :
    sumNat (s.ths.map (inside rid)) = s.sh.held.count rid ∧ s.sh.held.count rid ≤ 1 :=
  Ebu.Conc.seq_mutex progs s h rid

/-- Async+Sequential: tickets are handed out 0,1,2,… in dispatch order … -/
theorem tickets_in_dispatch_order (progs : List (List Op)) (s : Sys) (h : Reachable progs s) (rid : Nat) :
    ticketsOf rid s.sh.issued = List.range (ticketsOf rid s.sh.issued).length :=
  Ebu.Conc.tickets_in_dispatch_order progs s h rid

/-- … and turns are taken 0,1,2,… in that same order: the k-th event dispatched to the
registration is the k-th one processed (publish order is preserved) -/
theorem turns_in_ticket_order (progs : List (List Op)) (s : Sys) (h : Reachable progs s) (rid : Nat) :
    ticketsOf rid s.sh.turns = List.range (ticketsOf rid s.sh.turns).length ∧
    (ticketsOf rid s.sh.turns).length ≤ (ticketsOf rid s.sh.issued).length :=
  Ebu.Conc.turns_in_ticket_order progs s h rid

/-- the ticket counter, the serving counter and the in-flight counter are only touched under their mutexes in the
CURRENT source (fact table regenerated on every run): tickets are handed out without lost updates, which is what the
atomic `ticket` step of M2 assumes -/
theorem ticket_counters_locked : Ebu.Locks.Discipline Ebu.Generated.accessFacts = true :=
  Ebu.Props.C03.facts_discipline

/-! ### obligations on the control flow of the CURRENT source (`Ebu/Generated/Flow.lean`, regenerated from /repo on every run) -/

/-- OBLIGATION: the ticket is taken by the publisher (in dispatch order, before `go`), the turn is awaited inside the goroutine before the handler call, and released by a `defer` registered right after -/
theorem flow_ticket_discipline : Ebu.Flow.ticketDiscipline = true := Ebu.Flow.ticketDiscipline_holds

/-- OBLIGATION: the Sequential mutex is taken first thing in `callHandlerWithContext` and unlocked by a `defer` registered right after the lock; the context is checked again once it is held -/
theorem flow_handler_mutex : Ebu.Flow.handlerBracket = true := Ebu.Flow.handlerBracket_holds

/-- OBLIGATION: `awaitTurn` re-checks `seqServing` in a loop around `seqCond.Wait` and `releaseTurn` advances `seqServing` and BROADCASTS under `seqMu`: M2's turn step is enabled exactly when `serving = ticket`, which needs every waiting goroutine to be woken, not just one -/
theorem flow_turn_wakes_every_waiter : Ebu.Flow.condVarShape = true := Ebu.Flow.condVarShape_holds

/-! ### every event dispatched to an Async(+Sequential) handler is delivered exactly once (M2 with its trace) -/

/-- the goroutine started for one event of an Async (+Sequential) handler delivers exactly that event to exactly that
registration, at most once – and exactly once when it has finished and the publish context is live -/
theorem async_sequential_delivery_exactly_once (progs : List (List Ebu.Conc.Op)) (x : Ebu.Conc.SysT)
    (h : Ebu.Conc.ReachableT progs x) (i : Nat) (th : Ebu.Conc.Thread) (j : Ebu.Conc.Job)
    (hi : x.s.ths[i]? = some th) (hj : th.job = some j) :
    (Ebu.Conc.asyncEntersOf i x.tr = [] ∨ Ebu.Conc.asyncEntersOf i x.tr = [Ebu.Conc.Obs.enter j.reg.rid j.ty j.v true]) ∧
    (th.pc = .done → x.s.sh.live j.ctx = true →
      Ebu.Conc.asyncEntersOf i x.tr = [Ebu.Conc.Obs.enter j.reg.rid j.ty j.v true]) :=
  ⟨Ebu.Conc.async_at_most_once h i th j hi hj, fun hd hl => Ebu.Conc.async_exactly_once_when_done h i th j hi hj hd hl⟩

/-- no goroutine waits for a turn or a Sequential mutex for ever: under the rank hypothesis every maximal run ends with
every goroutine finished -/
theorem no_invocation_starves (ρ : Nat → Nat) (progs : List (List Ebu.Conc.Op)) (hr : Ebu.Conc.Ranked ρ progs)
    (x : Ebu.Conc.SysT) (h : Ebu.Conc.ReachableT progs x) (hmax : ¬ x.s.canStep) : x.s.allDone :=
  (Ebu.Conc.maximal_run_delivers_everything ρ progs hr h hmax).1

/-! ### processed in publish order (M2 with its trace, `Proofs/ConcOrder.lean`) -/

/-- the README's "preserves order", for every schedule: the tickets of the asynchronous entries of an Async+Sequential
registration, in the order in which its handler was entered, are strictly increasing – with `tickets_in_dispatch_order`
(tickets are handed out 0,1,2,… in dispatch order) events are processed in the order in which they were dispatched;
cancelled ones are skipped, none overtakes -/
theorem async_seq_entries_in_ticket_order (progs : List (List Ebu.Conc.Op)) (x : Ebu.Conc.SysT)
    (h : Ebu.Conc.ReachableT progs x) (rid : Nat) (hseq : Ebu.Conc.SeqJobs x.s rid) :
    (Ebu.Conc.asyncEntryTickets x rid).Pairwise (· < ·) :=
  Ebu.Conc.async_seq_entries_in_ticket_order h rid hseq

/-- … and whatever has been entered is below the ticket that is served next -/
theorem async_seq_entries_below_serving (progs : List (List Ebu.Conc.Op)) (x : Ebu.Conc.SysT)
    (h : Ebu.Conc.ReachableT progs x) (rid : Nat) (hseq : Ebu.Conc.SeqJobs x.s rid) :
    ∀ t ∈ Ebu.Conc.asyncEntryTickets x rid, t < Ebu.Conc.lookupD x.s.sh.serving rid + 1 :=
  Ebu.Conc.async_seq_entries_below_serving h rid hseq

/-- non-vacuity: an Async+Sequential handler, two publishes, the goroutine of the second event scheduled first: it has
to wait, and the handler is entered with tickets 0 then 1 -/
theorem entry_order_example :
    Ebu.Conc.ReachableT Ebu.Conc.OrderExample.ordProgs Ebu.Conc.OrderExample.ordState ∧
    Ebu.Conc.SeqJobs Ebu.Conc.OrderExample.ordState.s 0 ∧ Ebu.Conc.OrderExample.ordState.s.allDone ∧
    Ebu.Conc.asyncEntryTickets Ebu.Conc.OrderExample.ordState 0 = [0, 1] ∧
    Ebu.Conc.lookupD Ebu.Conc.OrderExample.ordState.s.sh.serving 0 = 2 :=
  ⟨Ebu.Conc.OrderExample.ordReachable, Ebu.Conc.OrderExample.ordSeqJobs, by unfold Ebu.Conc.Sys.allDone; decide +kernel⟩

/-! ### the wake-up discipline of the ticket lock (M2t, `Ebu/Model/TurnLock.lean`) -/

/-- how `releaseTurn` wakes the goroutines waiting for their turn in the CURRENT source (read off its control-flow skeleton) -/
def sourceTurnWake : Ebu.Inflight.Wake :=
  if Ebu.Flow.occurs Ebu.Generated.Flow.turnBroadcast Ebu.Generated.Flow.releaseTurnFlow then .broadcast
  else if Ebu.Flow.occurs Ebu.Generated.Flow.turnSignal Ebu.Generated.Flow.releaseTurnFlow then .signal else .none

/-- OBLIGATION on the current source + consequence: `releaseTurn` broadcasts, hence – whatever the order in which
goroutines ask for their turn, park, are woken and resume – no goroutine is ever parked while its own ticket is being
served: the turn step of M2 ("enabled exactly when serving = ticket") abstracts the condition variable soundly -/
theorem turn_wakeups_never_lost (ops : List Ebu.TurnLock.Op) :
    sourceTurnWake = .broadcast ∧ Ebu.TurnLock.NoLostWakeup (Ebu.TurnLock.run sourceTurnWake ops) := by
  have h : sourceTurnWake = .broadcast := by decide +kernel
  exact ⟨h, h ▸ Ebu.TurnLock.broadcast_no_lost_wakeup ops⟩

/-- the obligation is not decoration: with `Signal` the wake-up can go to a goroutine whose turn it is not, and the one
whose turn it is sleeps on -/
theorem turn_signal_would_lose_a_wakeup :
    ¬ Ebu.TurnLock.NoLostWakeup (Ebu.TurnLock.run .signal [.await 0 0, .await 2 2, .await 1 1, .release, .resume 2]) :=
  Ebu.TurnLock.signal_loses_wakeup

end Ebu.Props.C07
