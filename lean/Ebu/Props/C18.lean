import Ebu.Spec.Flow
import Ebu.Spec.State
import Ebu.Proofs.State
import Ebu.Proofs.Flow.MaterializerShape
/-!
C18 — Materialized state is the fold of the message log

Model: M7 (`Ebu/Model/State.lean`). `lastWrite` is the declarative meaning of a log for one (entity type, key).
-/
namespace Ebu.Props.C18
open Ebu.State Ebu.StateWire

/-- C18: after any sequence of messages each registered collection holds exactly the last
written value of every key that was not deleted or reset afterwards -/
theorem materialize_eq_fold (m : Mat) (log : List Ev) (ty key : Nat)
    (hnodup : (m.cols.map (·.1)).Nodup) :
    (applyAll m log).lookup ty key = lastWrite m.strict m.registered ty key log (m.lookup ty key) :=
  Ebu.State.materialize_eq_fold m log ty key hnodup

/-- snapshot markers, unknown operations, unknown control kinds and – in non-strict mode –
messages for unregistered entity types change no collection -/
theorem identities (m : Mat) (e : Ev)
    (h : (∃ k, e.msg = .control k ∧ k ≠ .reset) ∨ (∃ ty key val ok, e.msg = .change ty key .other val ok) ∨
         (∃ ty key op val ok, e.msg = .change ty key op val ok ∧ m.registered ty = false)) :
    (m.apply e).1.cols = m.cols :=
  Ebu.State.identities m e h

/-- reset empties every collection -/
theorem reset_empties_all (m : Mat) (off : Nat) (ty key : Nat) :
    ((m.apply ⟨off, .control .reset⟩).1).lookup ty key = none ∧ (m.apply ⟨off, .control .reset⟩).2 = false :=
  Ebu.State.reset_empties_all m off ty key

/-- LastOffset is the offset of the last successfully applied event -/
theorem lastOffset_spec (m : Mat) (log : List Ev) :
    (applyAll m log).lastOffset = lastApplied m.strict m.registered log m.lastOffset :=
  Ebu.State.lastOffset_spec m log

/-- registering collections does not depend on contents; the set of registered types and the
strict flag never change while applying -/
theorem configuration_constant (m : Mat) (e : Ev) :
    (m.apply e).1.strict = m.strict ∧ ∀ ty, (m.apply e).1.registered ty = m.registered ty :=
  ⟨Ebu.State.apply_strict m e, congrFun (Ebu.State.registered_apply m e)⟩

/-- `Replay` = apply until the first failing event -/
theorem replay_spec (m : Mat) (log : List Ev) (h : ∀ e ∈ log, applies m.strict m.registered e = true) :
    m.replay log = (applyAll m log, false) :=
  Ebu.State.replay_spec m log h

/-- C18: applying a log in two sessions – the second resumed from LastOffset – gives the same
state as applying it in one (logs whose events all apply, with increasing offsets) -/
theorem resume_equiv (m : Mat) (l1 l2 : List Ev) (hinc : increasing (l1 ++ l2))
    (hstart : ∀ e ∈ l1 ++ l2, m.lastOffset < e.off)
    (hok : ∀ e ∈ l1 ++ l2, applies m.strict m.registered e = true) :
    ((m.replay l1).1.replay (after (m.replay l1).1.lastOffset (l1 ++ l2))).1 = (m.replay (l1 ++ l2)).1 :=
  Ebu.State.resume_equiv m l1 l2 hinc hstart hok

/-- keys containing the separator cannot collide inside a collection: for a fixed entity
type the composite key determines the key -/
theorem compositeKey_inj (ty k1 k2 : String) (h : compositeKey ty k1 = compositeKey ty k2) : k1 = k2 :=
  Ebu.State.compositeKey_inj ty k1 k2 h

/-! ### obligations on the control flow of the CURRENT source (`Ebu/Generated/Flow.lean`, regenerated from /repo on every run) -/

/-- OBLIGATION: `Materializer.Apply` writes `lastOffset` only after a control message or an error-free change was applied; a reset clears every collection under the lock and calls `onReset` afterwards; an unknown entity type is an error only in strict mode -/
theorem flow_materializer_shape : Ebu.Flow.materializerShape = true := Ebu.Flow.materializerShape_holds

end Ebu.Props.C18
