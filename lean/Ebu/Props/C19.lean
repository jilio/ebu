import Ebu.Spec.Flow
import Ebu.Spec.State
import Ebu.Proofs.State
import Ebu.Proofs.Flow.MaterializerShape
/-!
C19 — State messages survive the round trip; bad input is rejected without damage

Models: M7b (`Ebu/Model/StateWire.lean`, wire format and the discrimination logic of Apply) and M7.
-/
namespace Ebu.Props.C19
open Ebu.State Ebu.StateWire

/-- C19: a change message built by the helpers decodes to the same entity type, key,
operation and value – for every option combination – and is never mistaken for a control message -/
theorem decode_encode_change (m : Change) :
    decode (encodeChange m) = .change m.ty m.key m.op (m.value.map Leaf.doc) :=
  Ebu.StateWire.decode_encode_change m

/-- C19: a control message built by the helpers is recognised as that control message
(helpers always set a non-empty control kind) -/
theorem decode_encode_control (m : Control) (h : m.control ≠ "") :
    decode (encodeControl m) = .control m.control :=
  Ebu.StateWire.decode_encode_control m h

/-- C19: the serialised form uses exactly the state-protocol field names, with `omitempty` -/
theorem wire_field_names (m : Change) :
    ∃ hs, encodeChange m = .obj ([("type", .leaf (.str m.ty)), ("key", .leaf (.str m.key))] ++
        (match m.value with | some v => [("value", Val.leaf (.doc v))] | none => []) ++
        (match m.old with | some v => [("old_value", Val.leaf (.doc v))] | none => []) ++ [("headers", .obj hs)]) ∧
      hs.map (·.1) = ["operation"] ++ (if m.txid.isEmpty then [] else ["txid"]) ++ (if m.ts.isEmpty then [] else ["timestamp"]) :=
  Ebu.StateWire.wire_field_names m

/-- anything that is not a JSON object (or null) is rejected -/
theorem non_object_rejected : decode .notObject = .error :=
  Ebu.StateWire.decode_notObject 

/-- C19: an event that cannot be applied leaves every collection and LastOffset unchanged -/
theorem apply_error_no_change (m : Mat) (e : Ev) (h : (m.apply e).2 = true) :
    (m.apply e).1.cols = m.cols ∧ (m.apply e).1.lastOffset = m.lastOffset :=
  Ebu.State.apply_error_no_change m e h

/-- whether `Apply` returns an error is exactly `¬ applies` -/
theorem apply_err_iff (m : Mat) (e : Ev) :
    (m.apply e).2 = !applies m.strict m.registered e :=
  Ebu.State.apply_err_iff m e

/-! ### obligations on the control flow of the CURRENT source (`Ebu/Generated/Flow.lean`, regenerated from /repo on every run) -/

/-- OBLIGATION: `Apply` decodes first; an error of `applyChange` returns before `lastOffset` is written; a collection decodes the value before it touches its store -/
theorem flow_decode_before_mutation : Ebu.Flow.materializerShape = true := Ebu.Flow.materializerShape_holds

end Ebu.Props.C19
