import Ebu.Spec.Flow
import Ebu.Generated.Consts
import Ebu.Generated.SqlFacts
import Ebu.Props.C03Facts
import Ebu.Spec.Log
import Ebu.Proofs.Log
import Ebu.Proofs.Flow.SqliteShape
/-!
C11 — Replay delivers every event after the offset, or says that it did not

Models: M4 (`Ebu/Model/Replay.lean`) over M3. Fault script: the callback fails at call k, the context is cancelled during call k, the j-th Read fails.
-/
namespace Ebu.Props.C11
open Ebu.Log Ebu.Replay

/-- streaming stores, no fault: every event, in order, exactly once, and nil -/
theorem stream_complete (evs : List (Off × Rec)) :
    replayStream {} evs = ⟨evs, none, []⟩ :=
  (replayStream_sound {} evs).nofault

/-- streaming stores, any fault: a gap-free prefix; nil only if everything was delivered;
a failing callback or a cancellation before the end is reported -/
theorem stream_prefix_on_fault (f : Faults) (evs : List (Off × Rec)) :
    (replayStream f evs).delivered <+: evs ∧
    ((replayStream f evs).err = none → (replayStream f evs).delivered = evs) ∧
    (∀ k, f.cbFail = some k → k < evs.length → (f.cancelAt.all (fun c => k ≤ c)) = true → (replayStream f evs).err = some .callback) :=
  have h := (replayStream_sound f evs).anyfault
  ⟨(List.prefix_append _ _).trans h.1, h.2.2, replayStream_callback f evs⟩

/-- SQLite batched streaming, no fault: complete for every batch size ≥ 1 -/
theorem sqlite_batched_complete (rs : List Rec) (h : rs.length ≤ maxInt64) (batch : Nat) (hb : 0 < batch)
    (j : Nat) (hj : j ≤ rs.length) (fuel : Nat) (hf : rs.length + 2 ≤ fuel) :
    replaySqlBatched (sqlOf rs) {} batch fuel (j : Int) [] = ⟨(logWith decimal rs).drop j, none, []⟩ :=
  have _ := h  -- part of the statement, not needed: the loop keeps its cursor as a number and parses no offset
  (sql_replay_sound rs {} batch hb j hj fuel hf).nofault

/-- SQLite batched streaming, any fault: gap-free prefix (also counting the rows the driver may
still hand out before it notices a cancellation), nil only after everything -/
theorem sqlite_batched_prefix_on_fault (rs : List Rec) (h : rs.length ≤ maxInt64) (f : Faults) (batch : Nat) (hb : 0 < batch)
    (j : Nat) (hj : j ≤ rs.length) (fuel : Nat) (hf : rs.length + 2 ≤ fuel) :
    let r := replaySqlBatched (sqlOf rs) f batch fuel (j : Int) []
    (r.delivered ++ r.may) <+: (logWith decimal rs).drop j ∧ r.err ≠ some .fuel ∧
    (r.err = none → r.delivered = (logWith decimal rs).drop j) :=
  have _ := h  -- part of the statement, not needed: the loop keeps its cursor as a number and parses no offset
  (sql_replay_sound rs f batch hb j hj fuel hf).anyfault

/-- the paging fallback over any store that satisfies the paging contract, no fault:
complete for every batch size ≥ 1 (and for `≤ 0`, which means 100) -/
theorem paged_complete (read : Off → Int → Option (List (Off × Rec) × Off)) (off : Nat → Off)
    (all : List (Off × Rec)) (hs : PagedSpec read off all) (j : Nat) (hj : j ≤ all.length) (batch : Int)
    (fuel : Nat) (hf : all.length + 2 ≤ fuel) :
    replayPaged read {} (effBatch batch) fuel 0 (resumeAt off j) [] = ⟨all.drop j, none, []⟩ :=
  (pagedSpec_replay_sound read off all hs {} j hj batch fuel hf).nofault

/-- … any fault: gap-free prefix, nil only after everything -/
theorem paged_prefix_on_fault (read : Off → Int → Option (List (Off × Rec) × Off)) (off : Nat → Off)
    (all : List (Off × Rec)) (hs : PagedSpec read off all) (f : Faults) (j : Nat) (hj : j ≤ all.length) (batch : Int)
    (fuel : Nat) (hf : all.length + 2 ≤ fuel) :
    let r := replayPaged read f (effBatch batch) fuel 0 (resumeAt off j) []
    r.delivered <+: all.drop j ∧ r.err ≠ some .fuel ∧ (r.err = none → r.delivered = all.drop j) :=
  have h := (pagedSpec_replay_sound read off all hs f j hj batch fuel hf).anyfault
  ⟨(List.prefix_append _ _).trans h.1, h.2⟩

theorem memory_satisfies_contract (rs : List Rec) (h : rs.length < 10 ^ 20) :
    PagedSpec (fun o l => some ((memOf rs).read o l)) fmt20 (logWith fmt20 rs) :=
  Ebu.Log.mem_paged rs h

theorem sqlite_satisfies_contract (rs : List Rec) (h : rs.length ≤ maxInt64) :
    PagedSpec (sqlOf rs).read decimal (logWith decimal rs) :=
  Ebu.Log.sql_paged rs h

/-- KNOWN FINDING (C11): over the durable-streams store the paging fallback with a batch size
below the chunk size loses events and still returns nil: 5 events, batch 2 → 2 delivered, nil -/
theorem ds_replay_loses_events :
    (replayPaged (dsOf 5 [1, 2, 3, 4, 5]).read {} 2 20 0 [] []).err = none ∧
    ((replayPaged (dsOf 5 [1, 2, 3, 4, 5]).read {} 2 20 0 [] []).delivered.map (·.2)) = [1, 2] :=
  Ebu.Log.ds_replay_loses_events 

/-- what does hold for durable-streams: with a batch size not below the chunk size Replay
delivers every event -/
theorem ds_replay_untruncated_partial (chunk : Nat) (hc : 0 < chunk) (rs : List Rec) (h : rs.length < 10 ^ 10)
    (batch : Int) (hb : (chunk : Int) ≤ batch) (fuel : Nat) (hf : rs.length + 2 ≤ fuel) :
    (replayPaged (dsOf chunk rs).read {} batch fuel 0 [] []).err = none ∧
    (replayPaged (dsOf chunk rs).read {} batch fuel 0 [] []).delivered.map (·.2) = rs :=
  Ebu.Log.ds_replay_untruncated_partial chunk hc rs h batch hb fuel hf

/-- OBLIGATION on the current source: every SELECT over the events table (paged read, stream, batched stream) is a
position cursor – `WHERE position > ? ORDER BY position`, optionally `LIMIT ?` – as the models of `Read`, the stream and
`replaySqlBatched` assume; none pages with OFFSET (which counts rows instead of remembering where it was) -/
theorem sqlite_reads_are_position_cursors :
    Ebu.Generated.Sql.readSqls.length ≥ 3 ∧
    (Ebu.Generated.Sql.readSqls.all (fun st =>
      (st.drop 8).take 7 == ["FROM", "events", "WHERE", "position", ">", "?", "ORDER"] && !st.contains "OFFSET" &&
      (st.drop 15 == ["BY", "position"] || st.drop 15 == ["BY", "position", "LIMIT", "?"]))) = true := by decide

/-- replays select by `offset > from`: that is only right on a log whose offsets increase in log order, which for the
memory store rests on `Append` being one critical section in the CURRENT source -/
theorem memory_log_in_offset_order : Ebu.Locks.MemAppendAtomic Ebu.Generated.accessFacts = true :=
  Ebu.Props.C03.facts_memstore_append_atomic

/-- the model's default batch size is the one in the CURRENT source (extracted from Replay) -/
theorem default_batch_matches_source : effBatch 0 = Ebu.Generated.Consts.replayDefaultBatch ∧ effBatch (-5) = Ebu.Generated.Consts.replayDefaultBatch := by
  decide

/-! ### obligations on the control flow of the CURRENT source (`Ebu/Generated/Flow.lean`, regenerated from /repo on every run) -/

/-- OBLIGATION: `Replay` never appends, publishes or subscribes; the paged loop stops on an empty page, has the stuck-offset guard, and inspects every callback result -/
theorem flow_replay_shape : Ebu.Flow.replayShape = true := by decide +kernel

/-- OBLIGATION: the SQLite batched stream inspects `rows.Err()` after the row loop and yields it -/
theorem flow_sqlite_stream_checks_rows_err : Ebu.Flow.sqliteShape = true := Ebu.Flow.sqliteShape_holds

end Ebu.Props.C11
