import Ebu.Spec.Flow
import Ebu.Props.C03Facts
import Ebu.Spec.Bus
import Ebu.Proofs.BusFrame
import Ebu.Proofs.BusRefine
import Ebu.Proofs.Flow.DispatchOrder
import Ebu.Proofs.Flow.PublishPrelude
import Ebu.Proofs.Flow.RegistryCalls
import Ebu.Proofs.Flow.RetireByIdentity
/-!
C01 — Publish reaches exactly the subscribed handlers, once each, in order

Model: M1 (`Ebu/Model/Bus.lean`). The theorems hold for every program, including handlers that subscribe, unsubscribe, clear, publish, cancel and panic re-entrantly, every fuel, and every routing function `shardOf`.
-/
namespace Ebu.Props.C01
open Ebu.Bus

theorem sharded_lawful (shardOf : Nat → Nat) : (shardedImpl shardOf).Lawful :=
  Ebu.Bus.sharded_lawful shardOf

/-- one step of the machine commutes with the abstraction, for every lawful registry -/
theorem step_refines_flat {R : Type} (I : RegImpl R) (hI : I.Lawful) (cfg : Config) (n : Nat)
    (fr : Frame) (s : St R) (a : Action) :
    absSt I (exec I cfg n fr s a) = exec flatImpl cfg n fr (absSt I s) a :=
  Ebu.Bus.exec_refines I hI cfg n fr s a

theorem sharded_refines_flat {R : Type} (I : RegImpl R) (hI : I.Lawful) (cfg : Config) (fuel : Nat)
    (faults : List Bool) (prog : List Action) :
    absSt I (run I cfg fuel faults prog) = run flatImpl cfg fuel faults prog :=
  Refine.absSt_eq I (run_sim (Refine.ok I hI) fuel faults faults prog ⟨funext hI.get_empty, rfl⟩)

theorem subscribe_spec {R : Type} (I : RegImpl R) (hI : I.Lawful) (cfg : Config)
    (rec : Frame → St R → Action → St R) (fr : Frame) (s : St R)
    (ty hid : Nat) (once async seq : Bool) (filt : Option (Nat × Nat)) (body : Nat) (fcancel : Bool) :
    let s' := step I cfg rec fr s (.subscribe ty hid once async seq filt body fcancel)
    I.get s'.reg ty = I.get s.reg ty ++ [⟨s.c.nextRid, ty, hid, once, async, seq, filt, body, fcancel⟩] ∧
    (∀ t, t ≠ ty → I.get s'.reg t = I.get s.reg t) ∧ s'.c.trace = s.c.trace :=
  Ebu.Bus.subscribe_spec I hI cfg rec fr s ty hid once async seq filt body fcancel

/-- `Unsubscribe` removes exactly one registration — the first one of type `ty` whose handler
has the given code pointer — and reports an error iff there is none -/
theorem unsubscribe_spec {R : Type} (I : RegImpl R) (hI : I.Lawful) (cfg : Config)
    (rec : Frame → St R → Action → St R) (fr : Frame) (s : St R) (ty hid : Nat) :
    let s' := step I cfg rec fr s (.unsubscribe ty hid)
    (∀ t, t ≠ ty → I.get s'.reg t = I.get s.reg t) ∧
    ((∃ pre h post, I.get s.reg ty = pre ++ h :: post ∧ h.hid = hid ∧ (∀ x ∈ pre, x.hid ≠ hid) ∧
        I.get s'.reg ty = pre ++ post ∧ s'.c.trace = s.c.trace ++ [.qUnsub fr.depth ty hid true]) ∨
     ((∀ x ∈ I.get s.reg ty, x.hid ≠ hid) ∧ I.get s'.reg ty = I.get s.reg ty ∧
        s'.c.trace = s.c.trace ++ [.qUnsub fr.depth ty hid false])) :=
  Ebu.Bus.unsubscribe_spec I hI cfg rec fr s ty hid

theorem clear_spec {R : Type} (I : RegImpl R) (hI : I.Lawful) (cfg : Config)
    (rec : Frame → St R → Action → St R) (fr : Frame) (s : St R) (ty : Nat) :
    let s' := step I cfg rec fr s (.clear ty)
    I.get s'.reg ty = [] ∧ (∀ t, t ≠ ty → I.get s'.reg t = I.get s.reg t) :=
  Ebu.Bus.clear_spec I hI cfg rec fr s ty

theorem clearAll_spec {R : Type} (I : RegImpl R) (hI : I.Lawful) (cfg : Config)
    (rec : Frame → St R → Action → St R) (fr : Frame) (s : St R) :
    ∀ t, I.get (step I cfg rec fr s .clearAll).reg t = [] :=
  Ebu.Bus.clearAll_spec I hI cfg rec fr s

/-- `HasHandlers` and `HandlerCount` report the registry: the emitted answers are
`length > 0` and `length` of the type's registration list, and they leave it unchanged -/
theorem queries_spec {R : Type} (I : RegImpl R) (cfg : Config)
    (rec : Frame → St R → Action → St R) (fr : Frame) (s : St R) (ty : Nat) :
    (step I cfg rec fr s (.has ty)).c.trace = s.c.trace ++ [.qHas fr.depth ty (decide (0 < (I.get s.reg ty).length))] ∧
    (step I cfg rec fr s (.count ty)).c.trace = s.c.trace ++ [.qCount fr.depth ty (I.get s.reg ty).length] ∧
    (step I cfg rec fr s (.has ty)).reg = s.reg ∧ (step I cfg rec fr s (.count ty)).reg = s.reg :=
  Ebu.Bus.queries_spec I cfg rec fr s ty

theorem registry_wellformed {R : Type} (I : RegImpl R) (hI : I.Lawful) (cfg : Config) (fuel : Nat) (faults : List Bool)
    (prog : List Action) : WF I (run I cfg fuel faults prog) :=
  (run_eff I cfg fuel faults prog).fr.wf hI (BF.initSt_inv hI faults).1

/-- DELIVERY, soundness: the handlers a publish enters directly are registrations of the
snapshot taken when it began (so: of the published type, never one subscribed during the
delivery), each at most once and in subscription order, with the published type and value
and — for context-aware handlers — the publish context; the async ones it parks likewise -/
theorem publish_sound {R : Type} (I : RegImpl R) (hI : I.Lawful) (cfg : Config) (n : Nat) (fr : Frame)
    (ty v : Nat) (bad : Bool) (sel : CtxSel) (s : St R) :
    let s' := publish I cfg (exec I cfg n) fr ty v bad sel s
    (∃ l, s'.c.trace = s.c.trace ++ l) ∧ (∃ p, s'.c.pending = s.c.pending ++ p) ∧
    List.Sublist ((directEnters fr.depth (newTrace s s')).map (·.1))
      (((I.get s.reg ty).filter (fun r => !r.async)).map (·.rid)) ∧
    (∀ x ∈ directEnters fr.depth (newTrace s s'), x.2.1 = ty ∧ x.2.2.1 = v) ∧
    List.Sublist (((newPending s s').filter (fun q => q.depth == fr.depth)).map (·.reg))
      ((I.get s.reg ty).filter (fun r => r.async)) ∧
    (∀ q ∈ newPending s s', q.depth = fr.depth → q.ty = ty ∧ q.v = v) :=
  Ebu.Bus.publish_sound I hI cfg n fr ty v bad sel s

/-- DELIVERY, completeness: with a context that cannot be cancelled, every registration of
the snapshot whose filter accepts the event is invoked (sync) or parked for invocation
(async) — whatever the other handlers do: unsubscribe it, clear, publish, panic -/
theorem publish_complete {R : Type} (I : RegImpl R) (hI : I.Lawful) (cfg : Config) (n : Nat) (fr : Frame)
    (ty v : Nat) (bad : Bool) (s : St R) (h0 : 0 ∉ s.c.cancelled) (hctx : 0 < s.c.nextCtx) :
    let s' := publish I cfg (exec I cfg n) fr ty v bad .bg s
    ∀ r ∈ I.get s.reg ty, r.accepts v = true →
      (r.once = false → r.async = false → ∃ ctx, (r.rid, ty, v, ctx) ∈ directEnters fr.depth (newTrace s s')) ∧
      (r.once = false → r.async = true → ∃ q ∈ newPending s s', q.reg = r ∧ q.depth = fr.depth ∧ q.v = v) ∧
      (r.once = true → r.rid ∈ s'.c.executed) :=
  Ebu.Bus.publish_complete I hI cfg n fr ty v bad s h0 hctx

/-- exactly once: in a well-formed registry the rids entered directly are pairwise distinct -/
theorem publish_at_most_once {R : Type} (I : RegImpl R) (hI : I.Lawful) (cfg : Config) (n : Nat) (fr : Frame)
    (ty v : Nat) (bad : Bool) (sel : CtxSel) (s : St R) (hwf : WF I s) :
    let s' := publish I cfg (exec I cfg n) fr ty v bad sel s
    ((directEnters fr.depth (newTrace s s')).map (·.1)).Nodup :=
  Ebu.Bus.publish_at_most_once I hI cfg n fr ty v bad sel s hwf

/-- `Subscribe appends`, `Unsubscribe removes exactly the first registration …` describe whole API calls: every
registry mutator of the CURRENT source looks up and updates `shard.handlers` inside ONE write-locked critical section
(fact table regenerated on every run), so concurrent callers cannot lose or resurrect each other's registrations -/
theorem registry_calls_atomic : Ebu.Locks.RegistryOpsAtomic Ebu.Generated.accessFacts = true :=
  Ebu.Props.C03.facts_registry_ops_atomic

/-! ### obligations on the control flow of the CURRENT source (`Ebu/Generated/Flow.lean`, regenerated from /repo on every run) -/

/-- OBLIGATION: `PublishContext` copies the registrations of the type under the shard's read lock, releases it, and only then walks the copy (M1's `publish` takes its snapshot before any handler runs) -/
theorem flow_snapshot_then_dispatch : Ebu.Flow.publishPrelude = true := Ebu.Flow.publishPrelude_holds

/-- OBLIGATION: one snapshot entry is handled in the order filter, once claim, dispatch – inside the loop over the snapshot -/
theorem flow_dispatch_order : Ebu.Flow.dispatchOrder = true := Ebu.Flow.dispatchOrder_holds

/-- OBLIGATION: fired once handlers are removed after the loop, under the write lock, by pointer identity of the registration, one entry each -/
theorem flow_retire_by_identity : Ebu.Flow.retireByIdentity = true := Ebu.Flow.retireByIdentity_holds

/-- OBLIGATION: `Subscribe` / `SubscribeContext` apply the options (refusing a nil one) before the registration becomes visible and append it – once – under the shard's write lock -/
theorem flow_subscribe_shape : Ebu.Flow.subscribeShape = true := Ebu.Flow.subscribeShape_holds

/-- OBLIGATION: `Unsubscribe` removes, under the write lock, the FIRST registration with the given code pointer and returns at once (exactly one registration); `handler not found` only after the whole list was searched -/
theorem flow_unsubscribe_first_match : Ebu.Flow.unsubscribeShape = true := Ebu.Flow.unsubscribeShape_holds

/-- OBLIGATION: `Clear` deletes the type's entry, `ClearAll` replaces every shard's map, each under the shard's write lock -/
theorem flow_clear_shape : Ebu.Flow.clearShape = true := Ebu.Flow.clearShape_holds

end Ebu.Props.C01
