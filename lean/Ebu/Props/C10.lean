import Ebu.Spec.Flow
import Ebu.Generated.Consts
import Ebu.Props.C03Facts
import Ebu.Proofs.PersistConc
import Ebu.Generated.SqlFacts
import Ebu.Spec.Log
import Ebu.Proofs.Log
/-!
C10 — Every bundled store behaves as one append-only, resumable log

Models: M3 (`Ebu/Model/Log.lean`). `PagedSpec` is the contract of `EventStore.Read`; the memory and SQLite stores are proved to satisfy it (SQLite with offsets compared as numbers), and every store that satisfies it is proved to reproduce the log under any chain of reads. Known findings (see /verif/known_findings.json): SQLite offsets are not lexicographically ordered; the durable-streams store does not satisfy the contract when `limit` truncates a chunk — witness theorems below, plus the `_partial` statements that do hold.
-/
namespace Ebu.Props.C10
open Ebu.Log Ebu.Replay

/-- zero-padded offsets compare like the numbers they denote (this is why `%020d` makes the
memory store's string comparison correct; a Go int64 is below 10^20) -/
theorem memory_offsets_lexicographic (a b : Nat) (ha : a < 10 ^ 20) (hb : b < 10 ^ 20) :
    lexLt (fmt20 a) (fmt20 b) = decide (a < b) :=
  Ebu.Log.lexLt_fmt20 a b ha hb

theorem int64_fits_20_digits : maxInt64 < 10 ^ 20 :=
  by decide

theorem memory_log (rs : List Rec) :
    (memOf rs).events = logWith fmt20 rs ∧ (memOf rs).next = rs.length :=
  Ebu.Log.mem_log rs

theorem memory_satisfies_contract (rs : List Rec) (h : rs.length < 10 ^ 20) :
    PagedSpec (fun o l => some ((memOf rs).read o l)) fmt20 (logWith fmt20 rs) :=
  Ebu.Log.mem_paged rs h

theorem memory_stream_eq_read (rs : List Rec) (h : rs.length < 10 ^ 20) (j : Nat) (hj : j ≤ rs.length) :
    (memOf rs).stream (resumeAt fmt20 j) = ((memOf rs).read (resumeAt fmt20 j) 0).1 ∧
    (memOf rs).stream (resumeAt fmt20 j) = (logWith fmt20 rs).drop j :=
  ⟨by rw [Mem.read_eq]; rfl, mem_stream rs h j hj⟩

theorem memory_offsets_table (m : Mem) (id id' : String) (o : Off) :
    (m.save id o).load id = o ∧ (id' ≠ id → (m.save id o).load id' = m.load id') ∧
    (({} : Mem).load id = []) ∧ (m.save id o).events = m.events :=
  Ebu.Log.mem_offsets_table m id id' o

/-- SQLite offsets round-trip through ParseInt -/
theorem sqlite_offset_roundtrip (n : Nat) (h : n ≤ maxInt64) : sqlParse (decimal n) = some (n : Int) :=
  Ebu.Log.sqlParse_decimal n h

theorem sqlite_log (rs : List Rec) :
    (sqlOf rs).rows = ((List.range rs.length).zip rs).map (fun (i, r) => (i + 1, r)) ∧ (sqlOf rs).seq = rs.length :=
  Ebu.Log.sql_log rs

theorem sqlite_satisfies_contract_numeric (rs : List Rec) (h : rs.length ≤ maxInt64) :
    PagedSpec (sqlOf rs).read decimal (logWith decimal rs) :=
  Ebu.Log.sql_paged rs h

/-- a cursor that is not a number is rejected, never silently treated as "oldest" -/
theorem sqlite_garbage_rejected (s : Sql) (o : Off) (limit : Int) (h : sqlParse o = none) :
    s.read o limit = none ∧ s.save "x" o = none :=
  by simp [Sql.read, Sql.save, h]

theorem sqlite_offsets_table (s s' : Sql) (id id' : String) (n : Nat) (hn : n ≤ maxInt64)
    (h : s.save id (decimal n) = some s') :
    s'.load id = decimal n ∧ (id' ≠ id → s'.load id' = s.load id') ∧ s'.rows = s.rows :=
  Ebu.Log.sql_offsets_table s s' id id' n hn h

/-- KNOWN FINDING (C10): unpadded decimal offsets do NOT increase under the documented
lexicographic comparison: offset "10" sorts before offset "9" -/
theorem sqlite_offsets_not_lex : lexLt (decimal 10) (decimal 9) = true :=
  Ebu.Log.sqlite_offsets_not_lex 

/-- any chain of reads with any limits, resumed from the returned next offsets, cuts the log
into consecutive pages: no gap and no repeat -/
theorem chain_reads_reproduce_log (read : Off → Int → Option (List (Off × Rec) × Off)) (off : Nat → Off)
    (all : List (Off × Rec)) (hs : PagedSpec read off all) (j : Nat) (hj : j ≤ all.length) (limits : List Int) :
    chainReads read (resumeAt off j) limits = some (pages (all.drop j) limits) :=
  Ebu.Log.chain_reads_reproduce_log read off all hs j hj limits

/-- … and the same holds when a read is resumed from the offset of ANY returned event:
the offset of event number `j` is the resume point `j` -/
theorem resume_from_event_offset (read : Off → Int → Option (List (Off × Rec) × Off)) (off : Nat → Off)
    (all : List (Off × Rec)) (hs : PagedSpec read off all) (j : Nat) (hj : j < all.length) (limit : Int) :
    read (all[j]).1 limit = some (sel (all.drop (j + 1)) limit, resumeAt off (j + 1 + (sel (all.drop (j + 1)) limit).length)) :=
  Ebu.Log.resume_from_event_offset read off all hs j hj limit

theorem ds_offsets_lexicographic (a b : Nat) (ha : a < 10 ^ 10) (hb : b < 10 ^ 10) :
    lexLt (fmt10 a) (fmt10 b) = decide (a < b) :=
  Ebu.Log.lexLt_digitsW 10 a b ha hb

/-- KNOWN FINDING (C10/C11/C12): `Read` truncates the chunk to `limit` but returns the
chunk's end as next offset: the rest of the chunk is lost for every chain of reads.
5 events, one chunk: Read(oldest, 2) returns 2 events, the next Read returns nothing. -/
theorem ds_limit_loses_events :
    ∃ evs next, (dsOf 5 [1, 2, 3, 4, 5]).read [] 2 = some (evs, next) ∧ evs.map (·.2) = [1, 2] ∧
      (dsOf 5 [1, 2, 3, 4, 5]).read next 2 = some ([], next) :=
  Ebu.Log.ds_limit_loses_events 

/-- KNOWN FINDING (C10/C12): the offset of a returned event is not a resume point: resuming
from the FIRST event's (synthetic) offset skips the whole chunk -/
theorem ds_event_offset_not_resumable :
    ∃ evs next, (dsOf 5 [1, 2, 3, 4, 5]).read [] 0 = some (evs, next) ∧ evs.length = 5 ∧
      ∃ o, evs.head? = some (o, 1) ∧ ((dsOf 5 [1, 2, 3, 4, 5]).read o 0).map (·.1.map (·.2)) = some [] :=
  Ebu.Log.ds_event_offset_not_resumable 

/-- what does hold: reads that do not truncate (`limit ≤ 0` or `limit ≥ chunk`), chained
through the returned next offsets, return consecutive chunks of the log -/
theorem ds_read_untruncated_partial (chunk : Nat) (hc : 0 < chunk) (rs : List Rec) (h : rs.length < 10 ^ 10)
    (j : Nat) (hj : j ≤ rs.length) (limit : Int) (hl : limit ≤ 0 ∨ (chunk : Int) ≤ limit) :
    ∃ evs, (dsOf chunk rs).read (if j = 0 then [] else fmt10 j) limit = some (evs, fmt10 (j + evs.length)) ∧
      evs.map (·.2) = (rs.drop j).take chunk :=
  Ebu.Log.ds_read_untruncated_partial chunk hc rs h j hj limit hl

/-- KNOWN FINDING (C10): offsets are opaque strings whose format the event store defines, but the SQLite store keeps
saved positions as integers: the memory store's offset of record 3 is accepted and comes back as `"3"` -/
theorem sqlite_saved_offset_not_verbatim :
    ((Sql.save {} "s" (fmt20 3)).map (fun s => s.load "s")) = some (decimal 3) ∧ decimal 3 ≠ fmt20 3 :=
  Ebu.Log.sqlite_saved_offset_not_verbatim 

/-- concurrent appenders, every schedule (M2p read as "threads calling MemoryStore.Append": reserve-and-insert is
one step because both happen under the store's write lock, see `memory_store_locked` below): offsets are handed out
1, 2, 3, … in log order, one record per append, and without the lock two appenders can get the same offset -/
theorem concurrent_appends_increasing (recs sched : List Nat) :
    let s := Ebu.PersistConc.run recs sched
    s.log.map (·.1) = List.range' 1 s.log.length ∧ (s.log.map (·.2)).Perm (Ebu.PersistConc.persistedRecs s) ∧
    (([0, 1, 0, 1].foldl Ebu.PersistConc.ustepAt { threads := [{ record := 7 }, { record := 8 }] }).log.map (·.1)) = [1, 1] :=
  ⟨(Ebu.PersistConc.offsets_ok recs sched).1, Ebu.PersistConc.log_ok recs sched, Ebu.PersistConc.unlocked_duplicates_offsets⟩

/-- … and `MemoryStore.Append` is that one step in the CURRENT source: offset reservation and insertion share one
write-locked critical section; the SQLite store leaves its connection pool unconstrained (an in-memory database lives as
long as one connection is open, and a reader must not starve a writer of connections) -/
theorem memory_append_one_step_sqlite_pool_free : Ebu.Locks.MemAppendAtomic Ebu.Generated.accessFacts = true ∧
    Ebu.Generated.Sql.poolCalls = [] :=
  ⟨Ebu.Props.C03.facts_memstore_append_atomic, by decide⟩

/-- the memory store's offset counter and event slice are only touched under its mutex (write
locked for Append) in the CURRENT source: concurrent appenders cannot interleave "reserve offset"
and "insert", so offsets increase in log order under every schedule -/
theorem memory_store_locked : Ebu.Locks.Discipline Ebu.Generated.accessFacts = true :=
  Ebu.Props.C03.facts_discipline

/-- the model's memory-store offsets (`fmt20` = 20 zero-padded digits) are what the CURRENT source
formats (`fmt.Sprintf` verb extracted from MemoryStore.Append on every run), the oldest-offset
literal is the empty string, and the SQLite store formats and parses positions in base 10 / 64 bits -/
theorem offset_formats_match_source :
    Ebu.Generated.Consts.memOffsetWidth = 20 ∧ Ebu.Generated.Consts.memOffsetZeroPadded = true ∧
    Ebu.Generated.Consts.offsetOldest = "" ∧ Ebu.Generated.Consts.sqliteFormatBase = 10 ∧
    Ebu.Generated.Consts.sqliteParseBase = 10 ∧ Ebu.Generated.Consts.sqliteParseBits = 64 ∧
    fmt20 = digitsW Ebu.Generated.Consts.memOffsetWidth := by
  refine ⟨by decide, by decide, by decide, by decide, by decide, by decide, rfl⟩

/-! ### obligations on the control flow of the CURRENT source (`Ebu/Generated/Flow.lean`, regenerated from /repo on every run) -/

/-- OBLIGATION: `MemoryStore`: Append reserves the offset (formatted from the counter) and inserts the record under the write lock; Read keeps the events with `offset > from` (all from the oldest offset) in log order and stops when the limit is reached; SaveOffset writes under the write lock – what M3's memory store transcribes -/
theorem flow_memory_store_shape : Ebu.Flow.memoryStoreShape = true := by decide +kernel

end Ebu.Props.C10
