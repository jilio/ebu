import Ebu.Spec.Flow
import Ebu.Props.C03Facts
import Ebu.Proofs.PersistConc
import Ebu.Spec.Bus
import Ebu.Proofs.BusPersist
import Ebu.Proofs.Flow.PersistShape
import Ebu.Proofs.Flow.PublishPrelude
/-!
C09 — Every publish on a persistent bus is recorded once, before it is delivered
-/
namespace Ebu.Props.C09
open Ebu.Bus

/-- the configuration produced by an option list does not depend on where `WithStore` stands:
the store is the last `WithStore` given (or the base one), every flag is "was it given" -/
theorem options_order_irrelevant (base : Config) (opts : List Opt) :
    let c := applyOptions base opts
    c.store = (match lastStore opts with | some sid => some sid | none => base.store) ∧
    c.hookBL = (base.hookBL || opts.contains .hookBL) ∧ c.hookBC = (base.hookBC || opts.contains .hookBC) ∧
    c.hookAL = (base.hookAL || opts.contains .hookAL) ∧ c.hookAC = (base.hookAC || opts.contains .hookAC) ∧
    c.panicH = (base.panicH || opts.contains .panicH) ∧ c.perrH = (base.perrH || opts.contains .perrH) ∧
    c.obs = (base.obs || opts.contains .obs) ∧ c.maxDepth = base.maxDepth ∧ c.maxCalls = base.maxCalls ∧
    c.bodies = base.bodies :=
  Ebu.Bus.applyOptions_spec base opts

/-- every permutation of an option list that names one store gives the same bus -/
theorem options_permutation (base : Config) (opts opts' : List Opt) (sid : Nat)
    (hperm : opts.Perm opts') (hone : ∀ o ∈ opts, ∀ k, o = .store k → k = sid) :
    applyOptions base opts = applyOptions base opts' :=
  Ebu.Bus.applyOptions_perm base opts opts' sid hperm hone

/-- what `persistEvent` does, case by case -/
theorem one_record_per_publish (cfg : Config) (d ty v : Nat) (bad : Bool) (obsParent : Nat) (c : Core) :
    let c' := persist cfg d ty v bad obsParent c
    -- no store: nothing at all
    (cfg.store = none → c' = c) ∧
    -- unencodable event: no append attempt, the error handler (if set) is told once
    (∀ sid, cfg.store = some sid → bad = true →
        c'.log = c.log ∧ c'.lastOffset = c.lastOffset ∧ c'.appendFaults = c.appendFaults ∧
        c'.trace = c.trace ++ (if cfg.perrH then [Ev.perr d ty v true] else [])) ∧
    -- the store accepts: exactly one record with the event's type and data, next offset
    (∀ sid, cfg.store = some sid → bad = false → c.appendFaults.headD false = false →
        c'.log = c.log ++ [(ty, v)] ∧ c'.lastOffset = c.log.length + 1 ∧
        (c'.trace.drop c.trace.length).filter (fun e => isAppend e || (match e with | .perr .. => true | _ => false)) =
          [Ev.append d sid ty v true (c.log.length + 1)]) ∧
    -- the store rejects: no record, no retry, one report
    (∀ sid, cfg.store = some sid → bad = false → c.appendFaults.headD false = true →
        c'.log = c.log ∧ c'.lastOffset = c.lastOffset ∧
        (c'.trace.drop c.trace.length).filter (fun e => isAppend e || (match e with | .perr .. => true | _ => false)) =
          [Ev.append d sid ty v false 0] ++ (if cfg.perrH then [Ev.perr d ty v false] else [])) :=
  Ebu.Bus.persist_spec cfg d ty v bad obsParent c

/-- C09: in the events of one publish, the append of its record (when there is a store and
the event is encodable) comes before every handler entry of that publish, and the log the
handlers see already contains it -/
theorem recorded_before_delivery {R : Type} (I : RegImpl R) (cfg : Config) (n : Nat) (fr : Frame)
    (ty v : Nat) (sel : CtxSel) (s : St R) (sid : Nat) (hstore : cfg.store = some sid)
    (hok : s.c.appendFaults.headD false = false) :
    let s' := publish I cfg (exec I cfg n) fr ty v false sel s
    ∃ pre post, newTrace s s' = pre ++ [Ev.append fr.depth sid ty v true (s.c.log.length + 1)] ++ post ∧
      (∀ e ∈ pre, isEnter e = false ∧ isAppend e = false) ∧
      (∃ l, s'.c.log = s.c.log ++ (ty, v) :: l) :=
  Ebu.Bus.publish_persists_first I cfg n fr ty v sel s sid hstore hok

/-- C09/C13: in every run the log has exactly one record per successful append, and the
offsets handed out are 1, 2, 3, … in order (distinct, strictly increasing), also across
failed appends -/
theorem offsets_increasing {R : Type} (I : RegImpl R) (cfg : Config) (fuel : Nat) (faults : List Bool)
    (prog : List Action) :
    let s := run I cfg fuel faults prog
    okOffsets s.c.trace = (List.range s.c.log.length).map (· + 1) ∧ s.c.lastOffset = s.c.log.length :=
  Ebu.Bus.offsets_increasing I cfg fuel faults prog

/-! ### N publishers, every schedule (M2p, `Ebu/Model/PersistConc.lean`) -/

/-- for any number of concurrent publishers and EVERY schedule: the offsets in the log are 1, 2, 3, … (distinct,
strictly increasing in log order) and `lastOffset` is the last one handed out -/
theorem concurrent_offsets_increasing (recs sched : List Nat) :
    let s := Ebu.PersistConc.run recs sched
    s.log.map (·.1) = List.range' 1 s.log.length ∧ s.lastOffset = s.log.length :=
  Ebu.PersistConc.offsets_ok recs sched

/-- … the log holds exactly one record per publish that has persisted (none lost, none twice), so N publishes that
have all got past `persistEvent` give exactly N records -/
theorem concurrent_one_record_per_publish (recs sched : List Nat) :
    let s := Ebu.PersistConc.run recs sched
    (s.log.map (·.2)).Perm (Ebu.PersistConc.persistedRecs s) ∧
    ((∀ t ∈ s.threads, 0 < t.pc) → s.log.length = recs.length) := by
  refine ⟨Ebu.PersistConc.log_ok recs sched, fun hall => ?_⟩
  rw [Ebu.PersistConc.all_persisted_length recs sched hall, Ebu.PersistConc.threads_length]

/-- … and the handlers of every publish run with that publish's record already readable from the log -/
theorem concurrent_recorded_before_delivery (recs sched : List Nat) :
    ∀ p ∈ (Ebu.PersistConc.run recs sched).seen, p.1 ∈ p.2.map (·.2) :=
  (Ebu.PersistConc.seen_ok recs sched).1

/-- the atomic persist step of M2p is what the CURRENT source does: `store.Append` and the update of `lastOffset`
sit inside one `storeMu` critical section (fact table regenerated from persist.go on every run); without it two
publishers can be handed the same offset (`Ebu.PersistConc.unlocked_duplicates_offsets`) -/
theorem appends_serialised : Ebu.Locks.CallbacksOk Ebu.Generated.callbackFacts = true ∧
    ((([0, 1, 0, 1].foldl Ebu.PersistConc.ustepAt { threads := [{ record := 7 }, { record := 8 }] }).log.map (·.1)) = [1, 1]) :=
  ⟨Ebu.Props.C03.facts_callbacks_lock_free, Ebu.PersistConc.unlocked_duplicates_offsets⟩

/-! ### obligations on the control flow of the CURRENT source (`Ebu/Generated/Flow.lean`, regenerated from /repo on every run) -/

/-- OBLIGATION: `persistEvent` is called exactly once per publish, unconditionally, after the before-hooks and before the snapshot is taken -/
theorem flow_persist_before_snapshot : Ebu.Flow.publishPrelude = true := Ebu.Flow.publishPrelude_holds

/-- OBLIGATION: `persistEvent`: marshal, then ONE append (in no loop) inside the `storeMu` critical section together with the update of `lastOffset` (only on success) -/
theorem flow_persist_shape : Ebu.Flow.persistShape = true := Ebu.Flow.persistShape_holds

end Ebu.Props.C09
