import Ebu.Proofs.ConcCancel
import Ebu.Spec.Flow
import Ebu.Spec.Bus
import Ebu.Proofs.BusFrame
import Ebu.Proofs.Flow.PublishEpilogue
import Ebu.Proofs.Flow.PublishPrelude
/-!
C08 — Cancellation, context propagation and publish hooks behave predictably
-/
namespace Ebu.Props.C08
open Ebu.Bus

/-- C08/C04: a publish whose context is already cancelled runs no handler, parks none,
consumes no once handler and leaves the registry alone -/
theorem cancelled_before_no_handler {R : Type} (I : RegImpl R) (hI : I.Lawful) (cfg : Config) (n : Nat) (fr : Frame)
    (ty v : Nat) (bad : Bool) (s : St R) :
    let s' := publish I cfg (exec I cfg n) fr ty v bad .dead s
    (∀ e ∈ newTrace s s', isEnter e = false) ∧ s'.c.pending = s.c.pending ∧
    s'.c.executed = s.c.executed ∧ (∀ t, I.get s'.reg t = I.get s.reg t) :=
  Ebu.Bus.dead_publish_inert I hI cfg n fr ty v bad s

/-- C08: once the publish context is cancelled no further handler of that publish is started:
the rest of the dispatch loop enters nothing, parks nothing, claims nothing -/
theorem cancel_stops_dispatch {R : Type} (cfg : Config) (rec : Frame → St R → Action → St R)
    (ty v root obs d : Nat) (s : St R) (claimed : List Reg) (rest : List Reg) (hdead : s.c.live root = false) :
    let out := rest.foldl (deliver cfg rec ty v root obs d) (s, claimed)
    out.2 = claimed ∧ out.1.c.executed = s.c.executed ∧ out.1.reg = s.reg ∧ out.1.c.pending = s.c.pending ∧
    (∀ e ∈ newTrace s out.1, isEnter e = false) := by
  obtain ⟨h1, h2, -, l, h4, h5⟩ := BF.loop_dead (cfg := cfg) (rec := rec) ty v root obs d rest s claimed hdead
  exact ⟨h1, h2.executed, h2.reg, h2.pending, newTrace_eq h4 ▸ h5⟩

/-- C08: a filter is user code that runs inside the dispatch loop and may cancel the context handed to
`PublishContext`.  If the filter of registration `r` does so (a real context: `root ≠ 0`), then this publish
starts no further handler: neither `r` itself nor any later registration `rest` of the snapshot is entered,
parked or claimed (whether or not the filter accepts the event), and the context stays cancelled -/
theorem filter_cancel_stops_dispatch {R : Type} (cfg : Config) (rec : Frame → St R → Action → St R)
    (ty v root obs d : Nat) (s : St R) (claimed : List Reg) (r : Reg) (rest : List Reg)
    (hfilt : r.filt.isSome = true) (hcan : r.filtCancels = true) (hroot : root ≠ 0) :
    let mid := deliver cfg rec ty v root obs d (s, claimed) r
    let out := (r :: rest).foldl (deliver cfg rec ty v root obs d) (s, claimed)
    mid.1.c.cancelled = root :: s.c.cancelled ∧ mid.1.c.live root = false ∧ out.1.c.live root = false ∧
    out.2 = claimed ∧ out.1.c.executed = s.c.executed ∧ out.1.reg = s.reg ∧ out.1.c.pending = s.c.pending ∧
    (∀ e ∈ newTrace s out.1, isEnter e = false) :=
  Ebu.Bus.filter_cancel_stops_dispatch cfg rec ty v root obs d s claimed r rest hfilt hcan hroot

/-- C08 hooks: the events a publish appends are `pre ++ mid ++ post` where `pre` holds the
before-hooks (each configured one exactly once, legacy first) and ends before the first
handler, `post` holds the after-hooks, and `mid` (the dispatch loop, where every handler of
this publish is entered and returns) contains no hook of this publish -/
theorem hooks_exactly_once_ordered {R : Type} (I : RegImpl R) (hI : I.Lawful) (cfg : Config) (n : Nat) (fr : Frame)
    (ty v : Nat) (bad : Bool) (sel : CtxSel) (s : St R) :
    let s' := publish I cfg (exec I cfg n) fr ty v bad sel s
    ∃ pre mid post, newTrace s s' = pre ++ mid ++ post ∧
      pre.filter (isHookAt fr.depth) =
        (if cfg.hookBL then [Ev.hook fr.depth .bl ty v] else []) ++ (if cfg.hookBC then [Ev.hook fr.depth .bc ty v] else []) ∧
      post.filter (isHookAt fr.depth) =
        (if cfg.hookAL then [Ev.hook fr.depth .al ty v] else []) ++ (if cfg.hookAC then [Ev.hook fr.depth .ac ty v] else []) ∧
      mid.filter (isHookAt fr.depth) = [] ∧
      (∀ e ∈ pre, isEnter e = false) ∧ (∀ e ∈ post, isEnter e = false) ∧
      directEnters fr.depth (newTrace s s') = directEnters fr.depth mid := by
  have _ := hI
  obtain ⟨pre, post, h1, h2, h3, h4, h5, h6, -⟩ := BF.publish_struct (exec_eff I cfg n) fr ty v bad sel s
  exact ⟨pre, _, post, h1, h2, h3, (BF.loop_sound (exec_eff I cfg n) ..).1, h4, h5, h6⟩

/-- DELIVERY, soundness: the handlers a publish enters directly are registrations of the
snapshot taken when it began (so: of the published type, never one subscribed during the
delivery), each at most once and in subscription order, with the published type and value
and — for context-aware handlers — the publish context; the async ones it parks likewise -/
theorem ctx_and_value_propagate {R : Type} (I : RegImpl R) (hI : I.Lawful) (cfg : Config) (n : Nat) (fr : Frame)
    (ty v : Nat) (bad : Bool) (sel : CtxSel) (s : St R) :
    let s' := publish I cfg (exec I cfg n) fr ty v bad sel s
    (∃ l, s'.c.trace = s.c.trace ++ l) ∧ (∃ p, s'.c.pending = s.c.pending ++ p) ∧
    List.Sublist ((directEnters fr.depth (newTrace s s')).map (·.1))
      (((I.get s.reg ty).filter (fun r => !r.async)).map (·.rid)) ∧
    (∀ x ∈ directEnters fr.depth (newTrace s s'), x.2.1 = ty ∧ x.2.2.1 = v) ∧
    List.Sublist (((newPending s s').filter (fun q => q.depth == fr.depth)).map (·.reg))
      ((I.get s.reg ty).filter (fun r => r.async)) ∧
    (∀ q ∈ newPending s s', q.depth = fr.depth → q.ty = ty ∧ q.v = v) :=
  Ebu.Bus.publish_sound I hI cfg n fr ty v bad sel s

/-- non-vacuity of `filter_cancel_stops_dispatch`: two handlers on type 1, the first with an accepting filter that
cancels the publish context; a publish with a fresh context evaluates the filter and enters nobody, whereas without
the cancellation both handlers run -/
example :
    (run flatImpl { bodies := [[]] } 3 []
      [.subscribe 1 0 false false false (some (1, 0)) 0 true, .subscribe 1 1 false false false none 0 false,
       .publish 1 5 false .fresh]).c.trace = [.filt 0 0 5 true] ∧
    (run flatImpl { bodies := [[]] } 3 []
      [.subscribe 1 0 false false false (some (1, 0)) 0 false, .subscribe 1 1 false false false none 0 false,
       .publish 1 5 false .fresh]).c.trace =
      [.filt 0 0 5 true, .enter 1 0 1 5 none false, .exit 1 0, .enter 1 1 1 5 none false, .exit 1 1] := by
  decide

/-! ### obligations on the control flow of the CURRENT source (`Ebu/Generated/Flow.lean`, regenerated from /repo on every run) -/

/-- OBLIGATION: publish-start callback, before-hooks (each once, outside every loop), persistence, snapshot – in this order, before the dispatch loop -/
theorem flow_hooks_before_dispatch : Ebu.Flow.publishPrelude = true := Ebu.Flow.publishPrelude_holds

/-- OBLIGATION: after-hooks and the publish-complete callback come after the loop and the retirement, each once, outside every loop, and no path of `PublishContext` returns before them -/
theorem flow_hooks_after_dispatch : Ebu.Flow.publishEpilogue = true := Ebu.Flow.publishEpilogue_holds

/-- OBLIGATION: each of the two handler call sites sits in the `default` branch of a `select` on `ctx.Done()` (synchronous: `continue`; async goroutine: `return`) -/
theorem flow_calls_guarded_by_ctx : Ebu.Flow.callsGuardedByCtx = true := by decide +kernel

/-! ### cancellation under concurrency (M2): the wait for a Sequential handler's mutex -/

/-- C08 under concurrency: a SYNCHRONOUS handler is never entered for a publish whose context is cancelled – also when
its goroutine had to wait for the handler's Sequential mutex (the context is checked again once the mutex is held: the
`fix:` commit 1feea95): every step that emits a synchronous entry is taken by a goroutine whose innermost publish
context is live before the step -/
theorem sync_entry_only_if_live (sh : Ebu.Conc.Shared) (th : Ebu.Conc.Thread) (o : Ebu.Conc.Out)
    (h : Ebu.Conc.step sh th = some o) (rid ty v : Nat) (he : Ebu.Conc.Obs.enter rid ty v false ∈ o.obs) :
    ∃ f fs, th.frames = f :: fs ∧ sh.live f.ctx = true :=
  Ebu.Conc.CancelWitness.sync_entry_only_if_live sh th o h rid ty v he

/-- … and on the schedule of the former defect (goroutine 1 has passed its context check and waits for the handler's
mutex, context 1 is cancelled, goroutine 0 leaves the handler) goroutine 1's next step enters nothing: the handler is
skipped.  The same history is replayed on the real code by the `seqcancel` scenario of the `stress` domain. -/
theorem cancelled_waiter_is_skipped :
    Ebu.Conc.entriesOfReg 0 Ebu.Conc.CancelWitness.cwAfter.tr = Ebu.Conc.entriesOfReg 0 Ebu.Conc.CancelWitness.cwState.tr :=
  Ebu.Conc.CancelWitness.cancelled_waiter_is_skipped

/-- … and the asynchronous half: the goroutine of an Async handler enters the handler only while the context of the
publish it was started for is live – whether it checks right at its start (plain Async) or after it has waited for its
turn and for the handler's mutex (Async+Sequential) – and what it enters is exactly the delivery it was started for -/
theorem async_entry_only_if_live (progs : List (List Ebu.Conc.Op)) (x : Ebu.Conc.SysT) (h : Ebu.Conc.ReachableT progs x)
    (i : Nat) (th : Ebu.Conc.Thread) (o : Ebu.Conc.Out) (hi : x.s.ths[i]? = some th)
    (hstep : Ebu.Conc.step x.s.sh th = some o) (rid ty v : Nat) (he : Ebu.Conc.Obs.enter rid ty v true ∈ o.obs) :
    ∃ j, th.job = some j ∧ x.s.sh.live j.ctx = true ∧ rid = j.reg.rid ∧ ty = j.ty ∧ v = j.v :=
  Ebu.Conc.async_entry_only_if_live h i th o hi hstep rid ty v he

/-- a goroutine whose publish context is cancelled before it has entered its handler never enters it, however the run
goes on -/
theorem cancelled_job_never_enters_later (progs : List (List Ebu.Conc.Op)) (x x2 : Ebu.Conc.SysT)
    (h : Ebu.Conc.ReachableT progs x) (hs : Ebu.Conc.StepsT x x2) (i : Nat) (th : Ebu.Conc.Thread) (j : Ebu.Conc.Job)
    (hi : x.s.ths[i]? = some th) (hj : th.job = some j) (hdead : x.s.sh.live j.ctx = false)
    (hnot : Ebu.Conc.asyncEntersOf i x.tr = []) :
    Ebu.Conc.asyncEntersOf i x2.tr = [] ∧ x2.s.sh.live j.ctx = false ∧
    ∃ th2, x2.s.ths[i]? = some th2 ∧ th2.job = some j :=
  Ebu.Conc.cancelled_job_never_enters_later h hs i th j hi hj hdead hnot

end Ebu.Props.C08
