import Ebu.Proofs.ConcOnce
import Ebu.Spec.Flow
import Ebu.Props.C03Facts
import Ebu.Spec.Conc
import Ebu.Proofs.Conc
import Ebu.Proofs.Flow.DispatchOrder
import Ebu.Proofs.Flow.RetireByIdentity
/-!
C04 — A Once handler fires at most once, and exactly once when eligible

Model: M2 (`Ebu/Model/Conc.lean`), the interleaving model: `Reachable progs s` ranges over every program, any number of threads and every schedule at yield-point granularity.
-/
namespace Ebu.Props.C04
open Ebu.Conc

/-- however the threads interleave, the handler of a Once registration is entered at most once -/
theorem once_at_most_once (progs : List (List Op)) (s : Sys) (h : Reachable progs s) (rid : Nat) :
    s.sh.enteredOnce.count rid ≤ 1 :=
  Ebu.Conc.once_at_most_once progs s h rid

/-- … and only after its compare-and-swap succeeded -/
theorem once_entered_was_claimed (progs : List (List Op)) (s : Sys) (h : Reachable progs s) (rid : Nat)
    (he : rid ∈ s.sh.enteredOnce) : rid ∈ s.sh.executed :=
  Ebu.Conc.once_entered_was_claimed progs s h rid he

/-- a delivery step whose filter rejects the event does not use the registration up -/
theorem filter_reject_not_consumed (sh : Shared) (th : Thread) (r : Reg) (f : Frame) (fs : List Frame) (o : Out)
    (hpc : th.pc = .filter r) (hfr : th.frames = f :: fs) (hrej : r.accepts f.v = false)
    (hstep : step sh th = some o) (hfresh : r.rid ∉ f.rest.map (·.rid)) (hno : r.rid ∉ sh.executed) :
    r.rid ∉ o.sh.executed :=
  Ebu.Conc.filter_reject_not_consumed sh th r f fs o hpc hfr hrej hstep hfresh hno

/-- a delivery step that finds the publish context cancelled does not use the registration up -/
theorem cancelled_not_consumed (sh : Shared) (th : Thread) (r : Reg) (f : Frame) (fs : List Frame) (o : Out)
    (hpc : th.pc = .filter r) (hfr : th.frames = f :: fs) (hdead : sh.live f.ctx = false)
    (hstep : step sh th = some o) (hno : r.rid ∉ sh.executed) :
    o.sh.executed = sh.executed :=
  Ebu.Conc.cancelled_not_consumed sh th r f fs o hpc hfr hdead hstep hno

/-- the once claim is an atomic compare-and-swap on `executed` (the only location the CURRENT source accesses
atomically, and it does so everywhere), and the retirement of a fired once handler – like every other registry update –
happens inside ONE write-locked critical section, so a concurrent Unsubscribe cannot write a spent handler back -/
theorem once_claim_and_retirement_atomic : Ebu.Locks.Discipline Ebu.Generated.accessFacts = true ∧
    Ebu.Locks.RegistryOpsAtomic Ebu.Generated.accessFacts = true :=
  ⟨Ebu.Props.C03.facts_discipline, Ebu.Props.C03.facts_registry_ops_atomic⟩

/-! ### obligations on the control flow of the CURRENT source (`Ebu/Generated/Flow.lean`, regenerated from /repo on every run) -/

/-- OBLIGATION: between the filter and the once claim the loop checks the context and skips the entry with `continue` (a rejected or cancelled delivery never reaches the compare-and-swap) -/
theorem flow_filter_and_ctx_before_claim : Ebu.Flow.ctxCheckBeforeClaim = true := by decide +kernel

/-- OBLIGATION: filter, then compare-and-swap, then the note for retirement, then dispatch; one compare-and-swap per entry -/
theorem flow_claim_order : Ebu.Flow.dispatchOrder = true := Ebu.Flow.dispatchOrder_holds

/-- OBLIGATION: a claimed once handler is retired by pointer identity after the loop -/
theorem flow_retire_by_identity : Ebu.Flow.retireByIdentity = true := Ebu.Flow.retireByIdentity_holds

/-! ### exactly once when eligible, and gone afterwards (M2 at quiescence, `Proofs/ConcOnce.lean`) -/

/-- "… and is no longer counted as subscribed afterwards": once every publish has returned, no registration whose
compare-and-swap succeeded is still in the registry – under every schedule, whoever claimed it, synchronous or Async -/
theorem once_fired_is_retired (progs : List (List Ebu.Conc.Op)) (s : Ebu.Conc.Sys) (h : Ebu.Conc.Reachable progs s)
    (hd : s.allDone) : ∀ r ∈ s.sh.regs, r.rid ∉ s.sh.executed :=
  Ebu.Conc.once_fired_is_retired progs s h hd

/-- "… it is invoked exactly once": when no publish context was ever cancelled, every claimed Once registration has been
entered exactly once by the time everything has finished (a claim is never lost between the compare-and-swap and the call) -/
theorem once_claimed_was_entered (progs : List (List Ebu.Conc.Op)) (s : Ebu.Conc.Sys) (h : Ebu.Conc.Reachable progs s)
    (hd : s.allDone) (hc : s.sh.cancelled = []) : ∀ rid ∈ s.sh.executed, s.sh.enteredOnce.count rid = 1 :=
  Ebu.Conc.once_claimed_was_entered progs s h hd hc

/-- only Once registrations are ever claimed -/
theorem executed_are_once (progs : List (List Ebu.Conc.Op)) (s : Ebu.Conc.Sys) (h : Ebu.Conc.Reachable progs s) :
    ∀ rid ∈ s.sh.executed, ∀ r ∈ s.sh.regs, r.rid = rid → r.once = true :=
  Ebu.Conc.executed_are_once progs s h

/-- the hypotheses are satisfiable: two publishers racing for a synchronous and an Async Once registration reach a
quiescent state in which both were claimed, both entered exactly once, and the registry is empty -/
theorem once_quiescence_reachable :
    Ebu.Conc.Reachable Ebu.Conc.OnceExample.oxProgs Ebu.Conc.OnceExample.oxState ∧ Ebu.Conc.OnceExample.oxState.allDone ∧
    Ebu.Conc.OnceExample.oxState.sh.cancelled = [] ∧ Ebu.Conc.OnceExample.oxState.sh.executed = [1, 0] ∧
    Ebu.Conc.OnceExample.oxState.sh.enteredOnce = [1, 0] ∧ Ebu.Conc.OnceExample.oxState.sh.regs = [] :=
  ⟨Ebu.Conc.OnceExample.oxReachable, by unfold Ebu.Conc.Sys.allDone; decide +kernel⟩

end Ebu.Props.C04
