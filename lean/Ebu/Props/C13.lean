import Ebu.Spec.Flow
import Ebu.Spec.Bus
import Ebu.Proofs.BusFrame
import Ebu.Proofs.BusPersist
import Ebu.Proofs.Flow.PersistShape
/-!
C13 — Persistence failures are contained, reported once and never corrupt the log
-/
namespace Ebu.Props.C13
open Ebu.Bus

/-- what `persistEvent` does, case by case -/
theorem failure_reported_once_no_retry (cfg : Config) (d ty v : Nat) (bad : Bool) (obsParent : Nat) (c : Core) :
    let c' := persist cfg d ty v bad obsParent c
    -- no store: nothing at all
    (cfg.store = none → c' = c) ∧
    -- unencodable event: no append attempt, the error handler (if set) is told once
    (∀ sid, cfg.store = some sid → bad = true →
        c'.log = c.log ∧ c'.lastOffset = c.lastOffset ∧ c'.appendFaults = c.appendFaults ∧
        c'.trace = c.trace ++ (if cfg.perrH then [Ev.perr d ty v true] else [])) ∧
    -- the store accepts: exactly one record with the event's type and data, next offset
    (∀ sid, cfg.store = some sid → bad = false → c.appendFaults.headD false = false →
        c'.log = c.log ++ [(ty, v)] ∧ c'.lastOffset = c.log.length + 1 ∧
        (c'.trace.drop c.trace.length).filter (fun e => isAppend e || (match e with | .perr .. => true | _ => false)) =
          [Ev.append d sid ty v true (c.log.length + 1)]) ∧
    -- the store rejects: no record, no retry, one report
    (∀ sid, cfg.store = some sid → bad = false → c.appendFaults.headD false = true →
        c'.log = c.log ∧ c'.lastOffset = c.lastOffset ∧
        (c'.trace.drop c.trace.length).filter (fun e => isAppend e || (match e with | .perr .. => true | _ => false)) =
          [Ev.append d sid ty v false 0] ++ (if cfg.perrH then [Ev.perr d ty v false] else [])) :=
  Ebu.Bus.persist_spec cfg d ty v bad obsParent c

/-- C13: which handlers run, in which order, with which events and results of registry
queries does not depend on whether appends fail: two runs that differ only in the fault
script have the same trace once the persistence events are removed -/
theorem delivery_independent_of_faults {R : Type} (I : RegImpl R) (cfg : Config) (fuel : Nat)
    (f1 f2 : List Bool) (prog : List Action) :
    (run I cfg fuel f1 prog).c.trace.filter (fun e => !isPersistEv e) =
    (run I cfg fuel f2 prog).c.trace.filter (fun e => !isPersistEv e) :=
  Ebu.Bus.delivery_independent_of_faults I cfg fuel f1 f2 prog

/-- C09/C13: in every run the log has exactly one record per successful append, and the
offsets handed out are 1, 2, 3, … in order (distinct, strictly increasing), also across
failed appends -/
theorem offsets_keep_increasing {R : Type} (I : RegImpl R) (cfg : Config) (fuel : Nat) (faults : List Bool)
    (prog : List Action) :
    let s := run I cfg fuel faults prog
    okOffsets s.c.trace = (List.range s.c.log.length).map (· + 1) ∧ s.c.lastOffset = s.c.log.length :=
  Ebu.Bus.offsets_increasing I cfg fuel faults prog

/-- a panic never escapes to the top level -/
theorem publish_does_not_panic {R : Type} (I : RegImpl R) (cfg : Config) (fuel : Nat) (faults : List Bool)
    (prog : List Action) : (run I cfg fuel faults prog).c.panicking = none :=
  Ebu.Bus.no_panic_escapes I cfg fuel faults prog

/-! ### obligations on the control flow of the CURRENT source (`Ebu/Generated/Flow.lean`, regenerated from /repo on every run) -/

/-- OBLIGATION: `persistEvent` reports a marshal failure and returns before any append; makes ONE append attempt in no loop (no retry); writes `lastOffset` only under `saveErr == nil`; reports an append failure once, after the lock is released; cancels the timeout context by `defer` -/
theorem flow_persist_shape : Ebu.Flow.persistShape = true := Ebu.Flow.persistShape_holds

end Ebu.Props.C13
