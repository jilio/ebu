import Ebu.Props.C03Facts
import Ebu.Proofs.ConcProgress
import Ebu.Proofs.ConcTermination
import Ebu.Spec.Flow
import Ebu.Proofs.Flow.CondVarShape
import Ebu.Proofs.Flow.HandlerBracket
import Ebu.Proofs.Flow.InflightBracketsGoroutine
import Ebu.Proofs.Flow.PublishPrelude
import Ebu.Proofs.Flow.TicketDiscipline
/-!
C03 — Concurrent use of the API is free of data races and deadlocks (second part).

`Ebu/Props/C03Facts.lean` holds the data-race half (RW-mutex theorems and the obligations on the lock facts of the current
source, which other properties reuse); this file holds the deadlock half: the deadlock-freedom theorem of the interleaving
model M2 and the obligations that tie M2's steps to the control flow of the current source.
-/
namespace Ebu.Props.C03

/-! ### no deadlock (M2, `Ebu/Model/Conc.lean`): every schedule, any number of goroutines -/

/-- DEADLOCK FREEDOM.  Under every schedule of every program – publishers, subscribers, unsubscribers, `Wait`ers,
async goroutines, Sequential mutexes, the ticket lock of Async+Sequential handlers, handlers that publish – as long
as some goroutine has not finished, some goroutine can take a step.  The only hypothesis is the one exception the
property names: there is a rank on event types along which handler bodies never publish upwards and synchronous
Sequential handlers publish strictly downwards, i.e. no synchronous Sequential handler publishes – directly or through
other synchronously dispatched handlers – an event that is delivered back to itself. -/
theorem deadlock_free (ρ : Nat → Nat) (progs : List (List Ebu.Conc.Op)) (hr : Ebu.Conc.Ranked ρ progs)
    (s : Ebu.Conc.Sys) (h : Ebu.Conc.Reachable progs s) (hu : s.unfinished) : s.canStep :=
  Ebu.Conc.deadlock_free ρ progs hr s h hu

/-- the hypothesis is satisfiable by a program with a Sequential handler publishing to other Sequential handlers, an
Async+Sequential handler that publishes its own type, a Once handler with a filter, cancellation and two `Wait`s … -/
theorem deadlock_free_applies : Ebu.Conc.Ranked Ebu.Conc.ProgressExample.exRank Ebu.Conc.ProgressExample.exProgs :=
  Ebu.Conc.ProgressExample.exProgs_ranked

/-- … and it cannot be dropped: two synchronous Sequential handlers that publish each other's type deadlock two
concurrent publishers (a reachable state in which nobody has finished and nobody can move), so that program has no rank -/
theorem deadlock_needs_the_exception :
    (Ebu.Conc.Reachable Ebu.Conc.ProgressExample.dlProgs Ebu.Conc.ProgressExample.dlState ∧
      Ebu.Conc.ProgressExample.dlState.unfinished ∧ ¬ Ebu.Conc.ProgressExample.dlState.canStep) ∧
    ¬ ∃ ρ, Ebu.Conc.Ranked ρ Ebu.Conc.ProgressExample.dlProgs :=
  ⟨Ebu.Conc.ProgressExample.dl_deadlock, Ebu.Conc.ProgressExample.dlProgs_not_ranked⟩

/-- TERMINATION.  When no handler publishes – directly or through other handlers – an event that is delivered back to
itself (a STRICT rank on event types: every handler body publishes only strictly lower types), every schedule is finite:
the number of steps any schedule of the program can take is bounded by a number that depends on the program alone
(number of subscriptions, body lengths, ranks).  No livelock, whatever the scheduler does. -/
theorem runs_terminate (ρ : Nat → Nat) (progs : List (List Ebu.Conc.Op)) (hr : Ebu.Conc.RankedStrict ρ progs) :
    ∃ bound : Nat, ∀ (sched : List Nat) (s : Ebu.Conc.Sys),
      Ebu.Conc.runSched (Ebu.Conc.initSys progs) sched = some s → sched.length ≤ bound :=
  Ebu.Conc.runs_terminate ρ progs hr

/-- … and every run can be continued to the end, where every goroutine has finished and nothing is in flight: together
with `deadlock_free` and `runs_terminate`, whatever the scheduler does every `Publish`, `Wait` and handler invocation
returns after finitely many steps -/
theorem every_run_completes (ρ : Nat → Nat) (progs : List (List Ebu.Conc.Op)) (hr : Ebu.Conc.RankedStrict ρ progs)
    (s : Ebu.Conc.Sys) (h : Ebu.Conc.Reachable progs s) :
    ∃ (sched : List Nat) (s' : Ebu.Conc.Sys), Ebu.Conc.runSched s sched = some s' ∧ s'.allDone ∧ s'.sh.inflight = 0 :=
  Ebu.Conc.every_run_completes ρ progs hr s h

/-- a strict rank is a rank in the sense of `deadlock_free` (the example program of `deadlock_free_applies`, whose
Async+Sequential handler re-publishes its own type, has a rank but no strict one: it is deadlock free, yet one of its
schedules is only finite because a goroutine's handler body is) -/
theorem strict_rank_is_rank (ρ : Nat → Nat) (progs : List (List Ebu.Conc.Op)) (hr : Ebu.Conc.RankedStrict ρ progs) :
    Ebu.Conc.Ranked ρ progs :=
  Ebu.Conc.rankedStrict_ranked ρ progs hr

/-! ### obligations on the control flow of the CURRENT source (`Ebu/Generated/Flow.lean`, regenerated on every run)

The steps of M2 are what `PublishContext` does in this order; each obligation names one modelling assumption. -/

/-- OBLIGATION: the snapshot is copied under the shard's read lock and the lock is released before the first
handler is looked at; hooks and persistence run before it, with no lock held -/
theorem flow_publish_prelude : Ebu.Flow.publishPrelude = true := Ebu.Flow.publishPrelude_holds

/-- OBLIGATION: the in-flight count is taken by the publisher before the goroutine exists and given back by a
`defer` registered first thing in the goroutine (so `Wait` cannot miss a goroutine, and a panic or a cancelled
context cannot leak a count) -/
theorem flow_inflight_brackets_goroutine : Ebu.Flow.inflightBracketsGoroutine = true :=
  Ebu.Flow.inflightBracketsGoroutine_holds

/-- OBLIGATION: tickets are taken by the publisher, turns awaited in the goroutine and released by a `defer`
registered at once (a skipped or panicking invocation passes the turn on: no goroutine waits for a turn that never comes) -/
theorem flow_ticket_discipline : Ebu.Flow.ticketDiscipline = true := Ebu.Flow.ticketDiscipline_holds

/-- OBLIGATION: the Sequential mutex is unlocked by a `defer` registered right after the lock, and the recovering
`defer` of a handler invocation is registered before anything else -/
theorem flow_handler_bracket : Ebu.Flow.handlerBracket = true := Ebu.Flow.handlerBracket_holds

/-- OBLIGATION: both condition variables are used so that no wake-up is lost: the waiter re-checks in a loop, the
state change is followed by a `Broadcast` (`Bus.Wait`'s counter and the ticket lock of Async+Sequential handlers) -/
theorem flow_cond_vars : Ebu.Flow.condVarShape = true := Ebu.Flow.condVarShape_holds

end Ebu.Props.C03
