import Ebu.Spec.Flow
import Ebu.Spec.Bus
import Ebu.Proofs.BusFrame
import Ebu.Proofs.Flow.HandlerBracket
import Ebu.Proofs.Flow.InflightBracketsGoroutine
import Ebu.Proofs.Flow.TicketDiscipline
/-!
C05 — A panicking handler never harms the publisher or the other handlers

`publish_complete` quantifies over arbitrary handler bodies, panicking ones included: the other handlers of the event still receive it.
-/
namespace Ebu.Props.C05
open Ebu.Bus

/-- a panic never escapes to the top level -/
theorem no_panic_escapes {R : Type} (I : RegImpl R) (cfg : Config) (fuel : Nat) (faults : List Bool)
    (prog : List Action) : (run I cfg fuel faults prog).c.panicking = none :=
  Ebu.Bus.no_panic_escapes I cfg fuel faults prog

/-- C05: the panic handler is called exactly once per panicking invocation — with the event,
the handler's kind and the panic value — and never otherwise; the invocation always returns
with the panic cleared -/
theorem panic_handler_exactly_once {R : Type} (I : RegImpl R) (cfg : Config) (n : Nat) (r : Reg)
    (ty v root obsParent d : Nat) (async : Bool) (s : St R) :
    let s' := callHandler cfg (exec I cfg n) r ty v root obsParent d async s
    s'.c.panicking = none ∧
    (newTrace s s').filter (isPanichAt d) =
      (match (bodyResult cfg (exec I cfg n) r ty v root obsParent d async s).c.panicking with
       | some val => if cfg.panicH then [Ev.panich d r.ctxAware ty v val] else []
       | none => []) := by
  obtain ⟨body, hb, ht⟩ := BF.callHandler_invEvs (exec_eff I cfg n) r ty v root obsParent d async s
  exact ⟨BF.chPost_panicking .., by rw [newTrace_eq ht, BF.invEvs_panich hb]; rfl⟩

/-- DELIVERY, completeness: with a context that cannot be cancelled, every registration of
the snapshot whose filter accepts the event is invoked (sync) or parked for invocation
(async) — whatever the other handlers do: unsubscribe it, clear, publish, panic -/
theorem others_still_receive {R : Type} (I : RegImpl R) (hI : I.Lawful) (cfg : Config) (n : Nat) (fr : Frame)
    (ty v : Nat) (bad : Bool) (s : St R) (h0 : 0 ∉ s.c.cancelled) (hctx : 0 < s.c.nextCtx) :
    let s' := publish I cfg (exec I cfg n) fr ty v bad .bg s
    ∀ r ∈ I.get s.reg ty, r.accepts v = true →
      (r.once = false → r.async = false → ∃ ctx, (r.rid, ty, v, ctx) ∈ directEnters fr.depth (newTrace s s')) ∧
      (r.once = false → r.async = true → ∃ q ∈ newPending s s', q.reg = r ∧ q.depth = fr.depth ∧ q.v = v) ∧
      (r.once = true → r.rid ∈ s'.c.executed) :=
  Ebu.Bus.publish_complete I hI cfg n fr ty v bad s h0 hctx

/-- C04/C05: at the end of every top-level run no fired once-handler is still registered -/
theorem panicking_once_stays_retired {R : Type} (I : RegImpl R) (hI : I.Lawful) (cfg : Config) (fuel : Nat)
    (faults : List Bool) (prog : List Action) :
    let s := run I cfg fuel faults prog
    ∀ t, ∀ r ∈ I.get s.reg t, r.once = true → r.rid ∉ s.c.executed :=
  Ebu.Bus.once_retired_after_run I hI cfg fuel faults prog

/-! ### obligations on the control flow of the CURRENT source (`Ebu/Generated/Flow.lean`, regenerated from /repo on every run) -/

/-- OBLIGATION: `callHandlerWithContext` takes the Sequential mutex first (unlock deferred right after the lock, then the context is checked again – the only early return), then registers the recovering `defer`; inside it `recover`, then the panic handler (only if something was recovered, once), then the handler-complete callback -/
theorem flow_handler_bracket : Ebu.Flow.handlerBracket = true := Ebu.Flow.handlerBracket_holds

/-- OBLIGATION: an async goroutine gives its in-flight count back by a `defer` registered first (a panicking handler cannot leak it: `Wait` still returns) -/
theorem flow_async_cleanup_deferred : Ebu.Flow.inflightBracketsGoroutine = true :=
  Ebu.Flow.inflightBracketsGoroutine_holds

/-- OBLIGATION: the turn of an Async+Sequential invocation is released by a `defer` registered right after it was obtained -/
theorem flow_turn_release_deferred : Ebu.Flow.ticketDiscipline = true := Ebu.Flow.ticketDiscipline_holds

end Ebu.Props.C05
