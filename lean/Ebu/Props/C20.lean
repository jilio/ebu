import Ebu.Spec.Flow
import Ebu.Spec.Bus
import Ebu.Proofs.BusObs
import Ebu.Proofs.BusOtel
import Ebu.Proofs.Flow.HandlerBracket
import Ebu.Proofs.Flow.PersistShape
import Ebu.Proofs.Flow.PublishEpilogue
import Ebu.Proofs.Flow.PublishPrelude
/-!
C20 — Observability callbacks are balanced, nested and truthful
-/
namespace Ebu.Props.C20
open Ebu.Bus

/-- whatever one API call appends to the trace is balanced and properly nested: processed
against ANY stack of open spans it ends with the same stack — every start has its complete,
each complete carries the id its start returned, pairs nest -/
theorem obs_balanced_call {R : Type} (I : RegImpl R) (cfg : Config) (n : Nat) (fr : Frame) (s : St R)
    (a : Action) (st : List Nat) :
    obsStack (newTrace s (exec I cfg n fr s a)) st = some st := by
  obtain ⟨l, hl, hs⟩ := (exec_eff I cfg n fr s a).ext
  exact newTrace_eq hl ▸ hs.bal st

theorem obs_balanced_run {R : Type} (I : RegImpl R) (cfg : Config) (fuel : Nat) (faults : List Bool)
    (prog : List Action) :
    obsStack (run I cfg fuel faults prog).c.trace [] = some [] :=
  Ebu.Bus.obs_balanced_run I cfg fuel faults prog

/-- span ids are never reused: the ids started in a run are pairwise distinct -/
theorem span_ids_fresh {R : Type} (I : RegImpl R) (cfg : Config) (fuel : Nat) (faults : List Bool)
    (prog : List Action) :
    (obsStarts (run I cfg fuel faults prog).c.trace).Nodup :=
  Ebu.Bus.obs_ids_fresh I cfg fuel faults prog

/-- one handler invocation: OnHandlerStart first (child of the context it was given), then the
handler, OnHandlerComplete last with the same span and `err ≠ nil` exactly when it panicked -/
theorem handler_callbacks {R : Type} (I : RegImpl R) (cfg : Config) (n : Nat) (r : Reg)
    (ty v root obsParent d : Nat) (async : Bool) (s : St R) (hobs : cfg.obs = true) :
    let s' := callHandler cfg (exec I cfg n) r ty v root obsParent d async s
    ∃ mid, newTrace s s' =
      [Ev.obs d .hs s.c.nextObs obsParent ty async] ++ mid ++
      [Ev.obs d .hc s.c.nextObs 0 ty (bodyResult cfg (exec I cfg n) r ty v root obsParent d async s).c.panicking.isSome] :=
  Ebu.Bus.callHandler_obs I cfg n r ty v root obsParent d async s hobs

/-- one persist: OnPersistStart/Complete exactly around an append attempt (none for an
unencodable event), child of the publish span, `err ≠ nil` exactly when the append failed -/
theorem persist_callbacks (cfg : Config) (d ty v : Nat) (bad : Bool) (obsParent : Nat) (c : Core) (sid : Nat)
    (hobs : cfg.obs = true) (hstore : cfg.store = some sid) :
    let c' := persist cfg d ty v bad obsParent c
    (bad = true → ∀ e ∈ c'.trace.drop c.trace.length, (match e with | .obs .. => false | _ => true) = true) ∧
    (bad = false → ∃ ok off rest, c'.trace.drop c.trace.length =
        [Ev.obs d .rs c.nextObs obsParent ty false, Ev.append d sid ty v ok off,
         Ev.obs d .rc c.nextObs 0 ty (!ok)] ++ rest ∧ ∀ e ∈ rest, (match e with | .obs .. => false | _ => true) = true) :=
  Ebu.Bus.persist_obs cfg d ty v bad obsParent c sid hobs hstore

/-- one publish: OnPublishStart is the first event and OnPublishComplete the last one, with the
same span; the spans opened in between at this depth are children of the publish span -/
theorem publish_callbacks {R : Type} (I : RegImpl R) (cfg : Config) (n : Nat) (fr : Frame)
    (ty v : Nat) (bad : Bool) (sel : CtxSel) (s : St R) (hobs : cfg.obs = true) :
    let s' := publish I cfg (exec I cfg n) fr ty v bad sel s
    ∃ parent mid, newTrace s s' =
      [Ev.obs fr.depth .ps s.c.nextObs parent ty false] ++ mid ++ [Ev.obs fr.depth .pc s.c.nextObs 0 ty false] ∧
      (∀ e ∈ mid, match e with
        | .obs d' .hs _ p _ async => d' = fr.depth → async = false → p = s.c.nextObs
        | .obs d' .rs _ p _ _ => d' = fr.depth → p = s.c.nextObs
        | _ => True) :=
  Ebu.Bus.publish_obs I cfg n fr ty v bad sel s hobs

/-- without an Observability no callback event is ever produced -/
theorem no_observability_no_callbacks {R : Type} (I : RegImpl R) (cfg : Config) (fuel : Nat) (faults : List Bool)
    (prog : List Action) (hobs : cfg.obs = false) :
    ∀ e ∈ (run I cfg fuel faults prog).c.trace, (match e with | .obs .. => false | _ => true) = true :=
  (Obs.run_seg I cfg fuel faults prog).noobs hobs

/-- in every run each span that is started is ended exactly once -/
theorem spans_ended_exactly_once {R : Type} (I : RegImpl R) (cfg : Config) (fuel : Nat) (faults : List Bool)
    (prog : List Action) (id : Nat) :
    let tr := (run I cfg fuel faults prog).c.trace
    (obsCompletes tr).count id = (obsStarts tr).count id ∧ (obsStarts tr).count id ≤ 1 :=
  Ebu.Bus.spans_ended_exactly_once I cfg fuel faults prog id

/-- with an Observability installed the counters equal the true numbers: handler runs = handler
invocations, persist attempts = append attempts, persist failures = failed appends, and – when a
panic handler is installed, which makes panics visible in the trace – handler errors = panics;
started spans = ended spans -/
theorem counters_truthful {R : Type} (I : RegImpl R) (cfg : Config) (fuel : Nat) (faults : List Bool)
    (prog : List Action) (hobs : cfg.obs = true) :
    let tr := (run I cfg fuel faults prog).c.trace
    let s := otelSummary tr
    s.started = s.ended ∧ s.handlerRuns = (trueCounts tr).1 ∧ s.persistAttempts = (trueCounts tr).2.2.1 ∧
    s.persistErrors = (trueCounts tr).2.2.2 ∧ (cfg.panicH = true → s.handlerErrors = (trueCounts tr).2.1) ∧
    s.started = s.publishes + s.handlerRuns + s.persistAttempts :=
  Ebu.Bus.counters_truthful I cfg fuel faults prog hobs

/-! ### obligations on the control flow of the CURRENT source (`Ebu/Generated/Flow.lean`, regenerated from /repo on every run) -/

/-- OBLIGATION: `OnPublishStart` comes first (its context is the one hooks, persistence and handlers get) -/
theorem flow_publish_callbacks : Ebu.Flow.publishPrelude = true := Ebu.Flow.publishPrelude_holds

/-- OBLIGATION: `OnPublishComplete` is the last thing `PublishContext` does, on every path -/
theorem flow_publish_complete_last : Ebu.Flow.publishEpilogue = true := Ebu.Flow.publishEpilogue_holds

/-- OBLIGATION: `OnHandlerStart` once before the call, `OnHandlerComplete` once inside the recovering `defer`, whether or not something was recovered -/
theorem flow_handler_callbacks : Ebu.Flow.handlerBracket = true := Ebu.Flow.handlerBracket_holds

/-- OBLIGATION: `OnPersistStart` before and `OnPersistComplete` after the one append, once each -/
theorem flow_persist_callbacks : Ebu.Flow.persistShape = true := Ebu.Flow.persistShape_holds

/-- OBLIGATION: the OpenTelemetry adapter: every start callback starts one span and increments its counter once, unconditionally, with no early return; every complete callback takes the span from the context and ends it exactly once as its last statement on every path; the error counters are incremented exactly under `err != nil` -/
theorem flow_otel_adapter : Ebu.Flow.otelShape = true := by decide +kernel

end Ebu.Props.C20
