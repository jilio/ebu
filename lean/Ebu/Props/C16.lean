import Ebu.Spec.Flow
import Ebu.Model.Upcast
import Ebu.Proofs.Upcast
import Ebu.Props.C03Facts
import Ebu.Proofs.Flow.ApplyShape
/-!
C16 — Upcaster registration can never create a cycle and upcasting always terminates.

Property theorems only (helper lemmas live in `Ebu/Proofs/Upcast.lean`).  All quantifiers
are unbounded: every graph, every sequence of operations, every choice of returned types.
-/
namespace Ebu.Props.C16
open Ebu.Upcast

/-- the search terminates within the fuel the model hands it: the Go recursion terminates -/
theorem dfs_fuel_sufficient (g : Graph) (src dst : Nat) : wouldCreateCycle g src dst ≠ none :=
  Ebu.Upcast.wouldCreateCycle_ne_none g src dst

/-- the cycle check decides reachability: it answers `true` exactly when the target
already reaches the source through registered (declared) edges -/
theorem dfs_iff_reach (g : Graph) (src dst : Nat) :
    wouldCreateCycle g src dst = some true ↔ Reach g dst src :=
  Ebu.Upcast.wouldCreateCycle_iff_reach g src dst

/-- a registration is accepted exactly when both names are non-empty, they differ, the
function is not nil and the target does not already reach the source -/
theorem register_accepts_iff (g : Graph) (u : Upcaster) (nilFn : Bool) :
    (∃ g', register g u nilFn = .ok g') ↔
      (u.src ≠ 0 ∧ u.dst ≠ 0 ∧ u.src ≠ u.dst ∧ nilFn = false ∧ ¬ Reach g u.dst u.src) :=
  Ebu.Upcast.register_accepts_iff g u nilFn

/-- an accepted registration appends exactly that upcaster; a rejected one changes nothing
(the model's `register` returns no graph on rejection, callers keep the old one) -/
theorem register_ok_appends (g g' : Graph) (u : Upcaster) (nilFn : Bool)
    (h : register g u nilFn = .ok g') : g' = g ++ [u] :=
  Ebu.Upcast.register_ok_appends g g' u nilFn h

/-- the registered graph is acyclic after every sequence of registrations and clears -/
theorem acyclic_invariant (ops : List Op) : Acyclic (ops.foldl applyOp []) :=
  Ebu.Upcast.acyclic_run ops

/-- applying upcasts terminates for EVERY registry (even one that is not acyclic) and every
choice of returned type names by raw upcasters: the fuel is never exhausted -/
theorem apply_terminates (g : Graph) (h : Bool) (d : List Nat) (t : Nat) :
    (apply g h d t).err ≠ some .fuel :=
  Ebu.Upcast.apply_no_fuel g h d t

/-- … and it calls at most one upcast function per registered upcaster, plus one -/
theorem apply_calls_bounded (g : Graph) (h : Bool) (d : List Nat) (t : Nat) :
    (apply g h d t).calls.length ≤ g.length + 1 :=
  Ebu.Upcast.apply_calls_le g h d t

/-- "also when registrations race": validation and insertion are one write-locked critical
section in the CURRENT source (fact table regenerated from upcast.go on every run), so racing
registrations are equivalent to some sequential order and `acyclic_invariant` applies -/
theorem racing_registrations_serialised :
    Ebu.Locks.RegisterAtomic Ebu.Generated.accessFacts = true :=
  Ebu.Props.C03.facts_register_atomic

/-- non-vacuity: a three-node registry built through `register`, where the closing edge is
rejected and a rogue upcaster (declared 1→2, returns 1) is stopped by `apply` -/
example :
    (register [] ⟨1, 2, 1, false, 7⟩ false = .ok [⟨1, 2, 1, false, 7⟩]) ∧
    (∃ g, register [⟨1, 2, 2, false, 7⟩, ⟨2, 3, 3, false, 8⟩] ⟨3, 4, 4, false, 9⟩ false = .ok g) ∧
    (register [⟨1, 2, 2, false, 7⟩, ⟨2, 3, 3, false, 8⟩] ⟨3, 1, 1, false, 9⟩ false = .error .cycle) ∧
    ((apply [⟨1, 2, 1, false, 7⟩] false [5] 1).err = some .loop) := by
  refine ⟨rfl, ⟨_, rfl⟩, rfl, by decide⟩


/-! ### obligations on the control flow of the CURRENT source (`Ebu/Generated/Flow.lean`, regenerated from /repo on every run) -/

/-- OBLIGATION: `register` validates its arguments, then – under the write lock, unlocked by a `defer` registered at
once – runs the cycle check and inserts the upcaster (M6's `register` is check-then-insert in one step) -/
theorem flow_register_shape : Ebu.Flow.registerShape = true := by decide +kernel

/-- OBLIGATION: `apply` marks the current type, refuses a declared target that was already seen, calls the upcaster,
and refuses a RETURNED type that was already seen before it advances – the two guards `apply_terminates` rests on -/
theorem flow_apply_shape : Ebu.Flow.applyShape = true := Ebu.Flow.applyShape_holds

end Ebu.Props.C16
