import Ebu.Spec.Flow
import Ebu.Generated.SqlFacts
import Ebu.Model.Durable
import Ebu.Proofs.Durable
import Ebu.Proofs.Flow.SqliteShape
/-!
C14 — What the SQLite store acknowledged survives reopening and a killed process

Model: M10 (`Ebu/Model/Durable.lean`). The theorems quantify over every sequence of appends, offset saves, kills (between or during operations, the in-flight statement committed or not), clean closes and reopenings; they rest on the assumptions stated at the top of the model file (statement atomicity, durability of committed statements across process death, AUTOINCREMENT), which the kill harness samples.
-/
namespace Ebu.Props.C14
open Ebu.Durable

/-- positions handed out are exactly 1,2,…,seq in order: the log is gap-free and ordered -/
theorem log_gap_free (ops : List Op) :
    (run ops).1.rows.map (·.1) = (List.range (run ops).1.rows.length).map (· + 1) ∧
    (run ops).1.seq = (run ops).1.rows.length :=
  Ebu.Durable.log_gap_free ops

/-- every acknowledged event is in the log, with the offset it was acknowledged with, in
acknowledgement order; the log holds nothing else except events that were in flight when the
process was killed -/
theorem acked_survive (ops : List Op) :
    List.Sublist ((run ops).2.appends.map (fun a => (a.2, a.1))) (run ops).1.rows :=
  Ebu.Durable.acked_survive ops

/-- an acknowledged SaveOffset is what LoadOffset returns afterwards, unless a later save of the
same id (acknowledged, or in flight when the process was killed) replaced it -/
theorem saved_offset_survives (ops : List Op) (id off : Nat) (more : List Op)
    (hnone : ∀ op ∈ more, (∀ o, op ≠ .save id o) ∧ (∀ o c, op ≠ .killSave id o c)) :
    subOf (run (ops ++ [.save id off] ++ more)).1 id = off :=
  Ebu.Durable.saved_offset_survives ops id off more hnone

/-- new appends always receive offsets larger than every offset handed out before, across any
number of kills and reopenings -/
theorem new_offsets_larger (ops : List Op) (r : Nat) :
    ∀ p ∈ (run ops).1.rows.map (·.1), p < (commitAppend (run ops).1 r).2 :=
  Ebu.Durable.new_offsets_larger ops r

/-- opening an existing database is idempotent and never touches the rows -/
theorem open_idempotent (s : Db × Acked) :
    step (step s .open) .open = step s .open ∧ (step s .open).1.rows = s.1.rows ∧ (step s .open).1.subs = s.1.subs :=
  Ebu.Durable.open_idempotent s

/-! ### obligations on the CURRENT source (SQL text regenerated from stores/sqlite on every run)

The model's assumptions name what the store must ask SQLite for; these are checked on the
extracted statements by the kernel. -/

open Ebu.Generated.Sql in
/-- the database is opened in WAL mode with synchronous = NORMAL (a committed transaction
survives the death of the process) -/
theorem journal_mode_wal : pragmas.contains ["PRAGMA", "journal_mode", "=", "WAL"] = true ∧
    pragmas.contains ["PRAGMA", "synchronous", "=", "NORMAL"] = true := by decide

open Ebu.Generated.Sql in
/-- positions come from an AUTOINCREMENT primary key: never reused, strictly increasing -/
theorem positions_autoincrement :
    (migrateInTx.any (fun st => st.take 6 == ["CREATE", "TABLE", "IF", "NOT", "EXISTS", "events"] &&
      (st.drop 6).take 6 == ["(", "position", "INTEGER", "PRIMARY", "KEY", "AUTOINCREMENT"])) = true := by decide

open Ebu.Generated.Sql in
/-- Append is exactly one INSERT and SaveOffset exactly one UPSERT (each a single atomic statement:
a kill can only land before or after it), neither makes any other database round trip, and the offset
Append acknowledges is the rowid reported for that very INSERT (not a value read on some pooled connection) -/
theorem append_and_save_are_single_statements :
    appendExecs = 1 ∧ saveOffsetExecs = 1 ∧ appendDbCalls = 1 ∧ saveOffsetDbCalls = 1 ∧
    appendOffsetFromInsertResult = true ∧ appendSql.take 3 == ["INSERT", "INTO", "events"] ∧
    (saveOffsetSql.take 3 == ["INSERT", "INTO", "subscription_positions"] && saveOffsetSql.contains "CONFLICT" &&
      saveOffsetSql.contains "UPDATE") = true := by decide

open Ebu.Generated.Sql in
/-- the schema and its version row are created in one transaction; opening again only re-runs
idempotent statements (`IF NOT EXISTS`) -/
theorem migrate_in_one_tx :
    migrateInTx.length = 4 ∧ (migrateInTx.getLast?.map (fun st => st.take 3)) = some ["INSERT", "INTO", "schema_version"] ∧
    (migrateOutsideTx.all (fun st => st.take 5 == ["CREATE", "TABLE", "IF", "NOT", "EXISTS"])) = true ∧
    ((migrateInTx.take 3).all (fun st => (st.drop 2).take 3 == ["IF", "NOT", "EXISTS"])) = true := by decide

/-! ### obligations on the control flow of the CURRENT source (`Ebu/Generated/Flow.lean`, regenerated from /repo on every run) -/

/-- OBLIGATION: SQLite `Append` makes one Exec and takes the offset from that Exec's result -/
theorem flow_sqlite_append_shape : Ebu.Flow.sqliteShape = true := Ebu.Flow.sqliteShape_holds

/-- OBLIGATION: the schema is created inside one transaction with a deferred rollback that fires when an error is returned, every statement on the transaction, commit last; and only when the recorded version is below 1 -/
theorem flow_migration_is_transactional : Ebu.Flow.migrateShape = true := by decide +kernel

end Ebu.Props.C14
