import Ebu.Proofs.ConcDead
import Ebu.Spec.Flow
import Ebu.Props.C03Facts
import Ebu.Spec.Conc
import Ebu.Proofs.Conc
import Ebu.Proofs.Flow.PublishPrelude
import Ebu.Proofs.Flow.RegistryCalls
import Ebu.Proofs.Flow.RetireByIdentity
/-!
C02 — Subscribe, unsubscribe and publish stay consistent under every interleaving

Model: M2 (`Ebu/Model/Conc.lean`), the interleaving model: `Reachable progs s` ranges over every program, any number of threads and every schedule at yield-point granularity.
-/
namespace Ebu.Props.C02
open Ebu.Conc

/-- no subscription is lost or duplicated: every registration ever created is either still
registered or was removed exactly once; registration identities are unique -/
theorem registry_accounting (progs : List (List Op)) (s : Sys) (h : Reachable progs s) :
    s.sh.regs.length + s.sh.removed = s.sh.nextRid ∧ (s.sh.regs.map (·.rid)).Nodup ∧
    ∀ r ∈ s.sh.regs, r.rid < s.sh.nextRid :=
  Ebu.Conc.registry_accounting progs s h

/-- a publish takes its snapshot from the registry as it is at that step: exactly the
registrations of the published type, in subscription order -/
theorem publish_takes_current_registry (sh : Shared) (th : Thread) (ty v : Nat) (ctx : Ctx) (prog : List Op)
    (hpc : th.pc = .op) (hfr : th.frames = []) (hprog : th.prog = .publish ty v ctx :: prog) :
    ∃ o f, step sh th = some o ∧ o.th.frames = [f] ∧ o.th.pc = .snap ∧ o.sh = sh ∧
      f.snapshot = sh.regs.filter (fun r => r.ty == ty) ∧ f.rest = f.snapshot ∧ f.v = v ∧ f.ty = ty :=
  Ebu.Conc.publish_takes_current_registry sh th ty v ctx prog hpc hfr hprog

/-- every activation only ever dispatches what is left of its own snapshot: the entries still
to be dispatched are a suffix of the snapshot (so each entry is dispatched at most once, in
order), and the snapshot holds registrations of the published type only -/
theorem dispatch_within_snapshot (progs : List (List Op)) (s : Sys) (h : Reachable progs s) :
    ∀ th ∈ s.ths, ∀ f ∈ th.frames, f.rest <:+ f.snapshot ∧ ∀ r ∈ f.snapshot, r.ty = f.ty ∧ r.rid < s.sh.nextRid :=
  Ebu.Conc.dispatch_within_snapshot progs s h

/-- however the threads interleave, the handler of a Once registration is entered at most once -/
theorem once_at_most_once (progs : List (List Op)) (s : Sys) (h : Reachable progs s) (rid : Nat) :
    s.sh.enteredOnce.count rid ≤ 1 :=
  Ebu.Conc.once_at_most_once progs s h rid

/-- invocations of a Sequential registration never overlap: at most one activation is inside it,
and exactly when its mutex is held -/
theorem seq_mutex (progs : List (List Op)) (s : Sys) (h : Reachable progs s) (rid : Nat) :
    sumNat (s.ths.map (inside rid)) = s.sh.held.count rid ∧ s.sh.held.count rid ≤ 1 :=
  Ebu.Conc.seq_mutex progs s h rid

/-- the atomic subscribe / removal steps of M2 are what the CURRENT source does: every registry mutator looks up
and updates `shard.handlers` inside one write-locked critical section (fact table regenerated on every run) -/
theorem registry_steps_atomic : Ebu.Locks.RegistryOpsAtomic Ebu.Generated.accessFacts = true :=
  Ebu.Props.C03.facts_registry_ops_atomic

/-! ### obligations on the control flow of the CURRENT source (`Ebu/Generated/Flow.lean`, regenerated from /repo on every run) -/

/-- OBLIGATION: the snapshot step of M2 is one read-locked copy, released before dispatch -/
theorem flow_snapshot_under_read_lock : Ebu.Flow.publishPrelude = true := Ebu.Flow.publishPrelude_holds

/-- OBLIGATION: the retirement step of M2 removes exactly the claimed registrations (pointer identity) inside one write-locked section after the loop -/
theorem flow_retire_by_identity : Ebu.Flow.retireByIdentity = true := Ebu.Flow.retireByIdentity_holds

/-- OBLIGATION: M2's `subscribe` step: options first, then one append under the write lock -/
theorem flow_registry_calls : Ebu.Flow.subscribeShape = true := Ebu.Flow.subscribeShape_holds

/-- OBLIGATION: M2's `unsubscribe` step (`eraseFirst`): the first registration with that code pointer, one entry, under the write lock -/
theorem flow_unsubscribe_first_match : Ebu.Flow.unsubscribeShape = true := Ebu.Flow.unsubscribeShape_holds

/-- OBLIGATION: M2's `clear` step: one delete under the write lock -/
theorem flow_clear_shape : Ebu.Flow.clearShape = true := Ebu.Flow.clearShape_holds

/-! ### a removed handler is never invoked again (M2 with its trace, `Proofs/ConcDead.lean`) -/

/-- "a handler whose removal returned before the publish was called … never receives it": once a registration is
neither in the registry nor carried by a publish in progress (in the rest of a snapshot, as running handler, at a
program counter, as the job of a goroutine), it stays that way and no step ever enters it – whatever is published
afterwards, under every schedule -/
theorem removed_registration_is_dead (progs : List (List Ebu.Conc.Op)) (x x2 : Ebu.Conc.SysT)
    (h : Ebu.Conc.ReachableT progs x) (hs : Ebu.Conc.StepsT x x2) (rid : Nat) (hrid : rid < x.s.sh.nextRid)
    (hgone : ∀ r ∈ x.s.sh.regs, r.rid ≠ rid) (hfree : ∀ th ∈ x.s.ths, Ebu.Conc.carriesReg rid th = false) :
    Ebu.Conc.entriesOfReg rid x2.tr = Ebu.Conc.entriesOfReg rid x.tr ∧
    (∀ r ∈ x2.s.sh.regs, r.rid ≠ rid) ∧ (∀ th ∈ x2.s.ths, Ebu.Conc.carriesReg rid th = false) :=
  Ebu.Conc.removed_registration_is_dead h hs rid hrid hgone hfree

/-- a registration is entered only by a goroutine that carried it before the step (it was in a snapshot taken while the
registration was registered): nothing is delivered to a handler out of thin air -/
theorem entered_only_if_carried (x x2 : Ebu.Conc.SysT) (i : Nat) (hstep : x.stepAt i = some x2) (rid : Nat)
    (hnew : Ebu.Conc.entriesOfReg rid x2.tr ≠ Ebu.Conc.entriesOfReg rid x.tr) :
    ∃ th, x.s.ths[i]? = some th ∧ Ebu.Conc.carriesReg rid th = true :=
  Ebu.Conc.entered_only_if_carried_strong hstep rid hnew

/-- non-vacuity: subscribe, publish, unsubscribe, publish – the handler ran once, then the hypotheses hold, and the
second publish does not reach it -/
theorem removed_registration_example :
    Ebu.Conc.ReachableT Ebu.Conc.DeadExample.dxProgs Ebu.Conc.DeadExample.dxState ∧
    Ebu.Conc.StepsT Ebu.Conc.DeadExample.dxState Ebu.Conc.DeadExample.dxFinal ∧
    0 < Ebu.Conc.DeadExample.dxState.s.sh.nextRid ∧
    (∀ r ∈ Ebu.Conc.DeadExample.dxState.s.sh.regs, r.rid ≠ 0) ∧
    (∀ th ∈ Ebu.Conc.DeadExample.dxState.s.ths, Ebu.Conc.carriesReg 0 th = false) ∧
    Ebu.Conc.entriesOfReg 0 Ebu.Conc.DeadExample.dxState.tr = [(0, Ebu.Conc.Obs.enter 0 0 1 false)] ∧
    Ebu.Conc.DeadExample.dxFinal.s.ths.map (·.pc) = [Ebu.Conc.Pc.done] ∧
    Ebu.Conc.entriesOfReg 0 Ebu.Conc.DeadExample.dxFinal.tr = [(0, Ebu.Conc.Obs.enter 0 0 1 false)] :=
  Ebu.Conc.dead_hypotheses_satisfiable

end Ebu.Props.C02
