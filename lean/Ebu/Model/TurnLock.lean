import Ebu.Model.Inflight
/-
M2t — the ticket lock of Async+Sequential handlers (event_bus.go `internalHandler.awaitTurn` / `releaseTurn`: a mutex,
a condition variable and the counter `seqServing`; `awaitTurn(t)` = `for seqServing != t { seqCond.Wait() }`,
`releaseTurn` = `seqServing++` followed by a wake-up).

Every operation runs under `seqMu`, so each is one atomic step.  A goroutine in `seqCond.Wait()` is *parked*; a
wake-up moves it to *woken* (runnable, has to re-acquire the mutex), from where `resume` re-checks the loop
condition.  How `releaseTurn` wakes waiters is a parameter: the source says which (the control-flow skeleton of
`releaseTurn`, regenerated on every run).  M2 (`Ebu/Model/Conc.lean`) abstracts all of this into "the turn step is
enabled exactly when `serving = ticket`", which is right only if no wake-up is lost.
-/
namespace Ebu.TurnLock
open Ebu.Inflight (Wake)

structure St where
  serving : Nat := 0
  parked : List (Nat × Nat) := []     -- (goroutine, ticket) blocked in seqCond.Wait()
  woken : List (Nat × Nat) := []      -- woken up, about to re-check `seqServing != ticket`
  inTurn : List (Nat × Nat) := []     -- awaitTurn has returned, the turn is not released yet
deriving Repr

inductive Op
  | await (g t : Nat)      -- goroutine g calls awaitTurn(t)
  | resume (g : Nat)       -- a woken goroutine gets the mutex back and re-checks
  | release                -- releaseTurn
deriving Repr

def step (w : Wake) (s : St) : Op → St
  | .await g t =>
    if s.serving = t then { s with inTurn := s.inTurn ++ [(g, t)] } else { s with parked := s.parked ++ [(g, t)] }
  | .resume g =>
    match s.woken.find? (fun p => p.1 == g) with
    | none => s
    | some p =>
      let woken := s.woken.erase p
      if s.serving = p.2 then { s with woken := woken, inTurn := s.inTurn ++ [p] }
      else { s with woken := woken, parked := s.parked ++ [p] }
  | .release =>
    let s := { s with serving := s.serving + 1, inTurn := s.inTurn.drop 1 }
    match w with
    | .broadcast => { s with parked := [], woken := s.woken ++ s.parked }
    | .signal =>
      match s.parked with
      | [] => s
      | p :: rest => { s with parked := rest, woken := s.woken ++ [p] }
    | .none => s

def run (w : Wake) (ops : List Op) : St := ops.foldl (step w) {}

/-- no lost wake-up: nobody is parked on the condition variable while it is its turn -/
def NoLostWakeup (s : St) : Prop := ∀ p ∈ s.parked, p.2 ≠ s.serving

theorem step_noLostWakeup (s : St) (op : Op) (h : NoLostWakeup s) : NoLostWakeup (step .broadcast s op) := by
  have hpark : ∀ {q : Nat × Nat}, s.serving ≠ q.2 → ∀ p ∈ s.parked ++ [q], p.2 ≠ s.serving := by
    intro q hne p hp
    rcases List.mem_append.mp hp with hp | hp
    · exact h p hp
    · rw [List.mem_singleton.mp hp]; exact Ne.symm hne
  unfold NoLostWakeup
  cases op with
  | await g t =>
    simp only [step]
    split
    · exact h
    · exact hpark ‹_›
  | resume g =>
    simp only [step]
    split
    · exact h
    · split
      · exact h
      · exact hpark ‹_›
  | release => exact fun _ hp => nomatch hp

/-- with `Broadcast`, in every reachable state no goroutine is parked while its ticket is being served: whoever can
go on is runnable (woken) or already in its turn – the abstraction M2 makes of the turn step is sound -/
theorem broadcast_no_lost_wakeup (ops : List Op) : NoLostWakeup (run .broadcast ops) :=
  List.foldlRecOn ops _ (fun _ hp => nomatch hp) fun s hs op _ => step_noLostWakeup s op hs

/-- with `Signal` the wake-up can go to the wrong goroutine: tickets 2 and 1 are parked in this order, ticket 0
releases; the goroutine woken up holds ticket 2, re-parks, and ticket 1 sleeps through its own turn -/
theorem signal_loses_wakeup :
    ¬ NoLostWakeup (run .signal [.await 0 0, .await 2 2, .await 1 1, .release, .resume 2]) := by
  unfold NoLostWakeup
  intro h
  exact h (1, 1) (by decide) (by decide)

end Ebu.TurnLock
