/-
M2w — the in-flight counter behind `EventBus.Wait` (event_bus.go `inflight`: a mutex, a condition
variable and a count; `add` in the publisher, `done` at the end of every async goroutine, `wait` =
`for n > 0 { cond.Wait() }`).

Every operation runs under the counter's mutex, so each is one atomic step.  A goroutine in
`cond.Wait()` is *parked* (on the condition variable's queue); a wake-up moves it to *woken*
(runnable, has to re-acquire the mutex), from where `resume` re-checks the loop condition.
How `done` wakes waiters when the count reaches zero is a parameter: the source says which
(`Ebu.Generated.Consts.inflightDoneWake`, regenerated on every run).
-/
namespace Ebu.Inflight

inductive Wake
  | broadcast     -- cond.Broadcast(): every parked waiter
  | signal        -- cond.Signal(): one parked waiter
  | none          -- no wake-up at all
deriving DecidableEq, Repr

structure St where
  n : Nat := 0
  parked : List Nat := []       -- goroutines blocked in cond.Wait()
  woken : List Nat := []        -- woken up, about to re-check `n > 0`
  returned : List Nat := []     -- goroutines whose Wait has returned
deriving Repr

inductive Op
  | add
  | done
  | wait (g : Nat)       -- goroutine g calls Wait
  | resume (g : Nat)     -- a woken goroutine gets the mutex back and re-checks
deriving Repr

def step (w : Wake) (s : St) : Op → St
  | .add => { s with n := s.n + 1 }
  | .done =>
    if s.n = 0 then s               -- unbalanced done: not produced by the bus (add precedes every done)
    else if s.n = 1 then
      match w with
      | .broadcast => { s with n := 0, parked := [], woken := s.woken ++ s.parked }
      | .signal =>
        match s.parked with
        | [] => { s with n := 0 }
        | g :: rest => { s with n := 0, parked := rest, woken := s.woken ++ [g] }
      | .none => { s with n := 0 }
    else { s with n := s.n - 1 }
  | .wait g =>
    if 0 < s.n then { s with parked := s.parked ++ [g] } else { s with returned := s.returned ++ [g] }
  | .resume g =>
    if g ∈ s.woken then
      if 0 < s.n then { s with woken := s.woken.erase g, parked := s.parked ++ [g] }
      else { s with woken := s.woken.erase g, returned := s.returned ++ [g] }
    else s

def run (w : Wake) (ops : List Op) : St := ops.foldl (step w) {}

/-- no lost wake-up: a goroutine is parked on the condition variable only while work is in flight -/
def NoLostWakeup (s : St) : Prop := s.parked ≠ [] → 0 < s.n

/-- `done` empties the queue when it zeroes the count, and nobody parks unless the count is positive -/
theorem step_noLostWakeup (s : St) (op : Op) (h : NoLostWakeup s) : NoLostWakeup (step .broadcast s op) := by
  unfold NoLostWakeup at *
  cases op with
  | add => exact fun hp => Nat.lt_succ_of_lt (h hp)
  | done =>
    simp only [step]
    split
    · exact h
    · split
      · exact fun hp => absurd rfl hp
      · intro hp; have := h hp; simp only; omega
  | wait g =>
    simp only [step]
    split
    · exact fun _ => ‹_›
    · exact h
  | resume g =>
    simp only [step]
    split
    · split
      · exact fun _ => ‹_›
      · exact h
    · exact h

/-- with `Broadcast`, in every reachable state nobody is parked while nothing is in flight (so every
waiter is either parked with work in flight, or runnable, or has returned) -/
theorem broadcast_no_lost_wakeup (ops : List Op) : NoLostWakeup (run .broadcast ops) :=
  List.foldlRecOn ops _ (fun h => absurd rfl h) fun s hs op _ => step_noLostWakeup s op hs

theorem returned_step_of_pos (w : Wake) (s : St) (op : Op) (hn : 0 < s.n) : (step w s op).returned = s.returned := by
  cases op with
  | add => rfl
  | done =>
    simp only [step, Nat.ne_of_gt hn, if_false]
    split
    · cases w
      · rfl
      · cases s.parked <;> rfl
      · rfl
    · rfl
  | wait g => simp only [step, hn, if_true]
  | resume g => simp only [step, hn, if_true]; split <;> rfl

/-- a waiter returns only in a state with nothing in flight (for every wake-up discipline: the loop
re-checks the count) -/
theorem returns_only_when_idle (w : Wake) (s : St) (op : Op) (g : Nat)
    (hnew : g ∈ (step w s op).returned) (hold : g ∉ s.returned) : s.n = 0 :=
  Decidable.byContradiction fun hn =>
    hold (returned_step_of_pos w s op (Nat.pos_of_ne_zero hn) ▸ hnew)

/-- the hypothesis on the wake-up discipline is needed: with `Signal`, two goroutines in `Wait`
and one finishing handler leave one of them parked for ever although nothing is in flight -/
theorem signal_loses_wakeup :
    ¬ NoLostWakeup (run .signal [.add, .wait 1, .wait 2, .done]) := by
  simp [NoLostWakeup, run, step]

/-- … and it stays parked whatever the woken one does -/
example : (run .signal [.add, .wait 1, .wait 2, .done, .resume 1]).parked = [2] ∧
    (run .signal [.add, .wait 1, .wait 2, .done, .resume 1]).returned = [1] := by
  simp [run, step]

/-- non-vacuity: with `Broadcast` both return -/
example : (run .broadcast [.add, .wait 1, .wait 2, .done, .resume 1, .resume 2]).returned = [1, 2] ∧
    (run .broadcast [.add, .wait 1, .wait 2, .done, .resume 1, .resume 2]).parked = [] := by
  simp [run, step]

end Ebu.Inflight
