/-
M2r — why the registry mutators must be ONE critical section each.  A registration list and two
ways of removing a handler: `removeAtomic` (find the first registration with that identity and cut
it out, all under the write lock — what the source does and what M2's atomic removal step is), and
the two-phase variant (find the index under one lock acquisition, cut "the element at that index"
under another), whose phases can interleave with another goroutine's removal.
-/
namespace Ebu.RegistrySteps

abbrev Reg := List Nat          -- handler identities, in subscription order

def removeAtomic (r : Reg) (h : Nat) : Reg := r.erase h

/-- phase 1: the index of the first registration of `h` -/
def findIdx (r : Reg) (h : Nat) : Option Nat := r.findIdx? (· == h)
/-- phase 2: cut out whatever is at that index now -/
def removeAt (r : Reg) (i : Nat) : Reg := r.eraseIdx i

/-- atomic removals commute and remove exactly the handlers asked for: whatever the order in which two
goroutines get the lock, nobody else's registration is touched -/
theorem atomic_removals_exact (r : Reg) (a b : Nat) :
    removeAtomic (removeAtomic r a) b = removeAtomic (removeAtomic r b) a ∧
    ∀ c, c ≠ a → c ≠ b → (removeAtomic (removeAtomic r a) b).count c = r.count c := by
  refine ⟨List.erase_comm a b, fun c hca hcb => ?_⟩
  unfold removeAtomic
  rw [List.count_erase_of_ne hcb, List.count_erase_of_ne hca]

/-- two-phase removals do not: goroutine 1 finds `10` at index 0, goroutine 2 finds `20` at index 1, goroutine 1
removes index 0, goroutine 2 removes index 1 – which now holds `30`.  `20` stays subscribed although its
`Unsubscribe` returned nil, and `30`, which nobody unsubscribed, is gone; the handler count is still right -/
theorem two_phase_removes_somebody_else :
    let r : Reg := [10, 20, 30]
    let i1 := (findIdx r 10).getD 0
    let i2 := (findIdx r 20).getD 0
    removeAt (removeAt r i1) i2 = [20] ∧ (removeAtomic (removeAtomic r 10) 20) = [30] := by
  decide

end Ebu.RegistrySteps
